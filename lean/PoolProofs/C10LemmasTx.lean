import PoolProofs.C10Lemmas
/-! The transaction codec: `readTx` inverts `encTx` on every well-formed transaction. -/
namespace Pool.C10

theorem readVarInt_rt {v : Nat} (h : v < 2 ^ 64) : Reads readVarInt (encVarInt v) v := by
  unfold encVarInt readVarInt
  by_cases h1 : v < 0xfd
  · rw [if_pos h1]
    refine (readLE_byte _).bind_nil ?_
    rw [UInt8.toNat_ofNat', Nat.mod_eq_of_lt (by omega), if_neg (by omega), if_neg (by omega), if_neg (by omega)]
    exact .pure_nil v
  · rw [if_neg h1]
    by_cases h2 : v ≤ 0xffff
    · rw [if_pos h2]
      exact .marked (readLE_byte _) rfl (readLE_rt (n := 2) (by omega)) (if_neg h1)
    · rw [if_neg h2]
      by_cases h3 : v ≤ 0xffffffff
      · rw [if_pos h3]
        exact .marked (readLE_byte _) rfl (readLE_rt (n := 4) (by omega)) (if_neg (by omega))
      · rw [if_neg h3]
        exact .marked (readLE_byte _) rfl (readLE_rt (n := 8) h) (if_neg (by omega))

theorem readScript_rt {b : Bytes} {slab : Nat} (h1 : b.length ≤ maxWitnessItemSize) (h2 : b.length ≤ slab) :
    Reads (readScript slab) (encVarBytes b) (b, slab - b.length) := by
  have hv : b.length < 2 ^ 64 := by unfold maxWitnessItemSize at h1; omega
  refine (readVarInt_rt hv).bind ?_
  rw [if_neg (by omega), if_neg (by omega)]
  exact (Reads.take rfl).map _

def TxIn.noWit (ti : TxIn) : TxIn := { ti with witness := [] }

theorem readTxIn_rt {ti : TxIn} {slab : Nat} (h : ti.WF) (hs : ti.sigScript.length ≤ slab) :
    Reads (readTxIn slab) (encTxIn ti) (ti.noWit, slab - ti.sigScript.length) := by
  obtain ⟨hh, hi, hq, hsl, -, -⟩ := h
  unfold encTxIn
  rw [List.append_assoc, List.append_assoc]
  exact (Reads.take hh).bind <| (readLE_rt (n := 4) hi).bind <| (readScript_rt hsl hs).bind <|
    (readLE_rt (n := 4) hq).map _

theorem readTxOut_rt {o : TxOut} {slab : Nat} (h : o.WF) (hs : o.pkScript.length ≤ slab) :
    Reads (readTxOut slab) (encTxOut o) (o, slab - o.pkScript.length) :=
  (readLE_rt (n := 8) h.1).bind ((readScript_rt h.2 hs).map _)

theorem readWitness_rt {w : List Bytes} {slab : Nat} (hn : w.length ≤ maxWitnessItemsPerInput)
    (hw : ∀ b ∈ w, b.length ≤ maxWitnessItemSize) (hs : (w.map List.length).sum ≤ slab) :
    Reads (readWitness slab) (encWitness w) (w, slab - (w.map List.length).sum) := by
  have hv : w.length < 2 ^ 64 := by unfold maxWitnessItemsPerInput at hn; omega
  refine (readVarInt_rt hv).bind ?_
  rw [if_neg (by omega)]
  have := Reads.repeatDec (f := id) (fun b hb s h2 => readScript_rt (hw b hb) h2) hs
  rwa [List.map_id] at this

def TxIn.witBytes (ti : TxIn) : Nat := (ti.witness.map List.length).sum

theorem readWitnesses_rt {ins : List TxIn} {slab : Nat} (h : ∀ ti ∈ ins, ti.WF)
    (hs : (ins.map TxIn.witBytes).sum ≤ slab) :
    Reads (readWitnesses (ins.map TxIn.noWit) slab) (ins.map fun ti => encWitness ti.witness).flatten
      (ins, slab - (ins.map TxIn.witBytes).sum) := by
  induction ins generalizing slab with
  | nil => exact .pure_nil _
  | cons ti l ih =>
    simp only [List.map_cons, List.sum_cons] at hs ⊢
    obtain ⟨-, -, -, -, hn, hw⟩ := h ti List.mem_cons_self
    rw [← Nat.sub_sub]
    exact (readWitness_rt hn hw (Nat.le_trans (Nat.le_add_right _ _) hs)).bind
      ((ih (fun x hx => h x (List.mem_cons_of_mem _ hx)) (Nat.le_sub_of_add_le' hs)).map _)

theorem scriptBytes_split (ins : List TxIn) :
    (ins.map TxIn.scriptBytes).sum =
      (ins.map fun ti => ti.sigScript.length).sum + (ins.map TxIn.witBytes).sum := by
  induction ins with
  | nil => rfl
  | cons ti l ih =>
    simp only [List.map_cons, List.sum_cons, ih, TxIn.scriptBytes, TxIn.witBytes]
    omega

theorem map_noWit_of_no_witness (ins : List TxIn)
    (h : (ins.any fun ti => !ti.witness.isEmpty) = false) : ins.map TxIn.noWit = ins := by
  rw [List.any_eq_false] at h
  have : ∀ ti ∈ ins, ti.noWit = ti := fun ti hti => by
    have hw : ti.witness = [] := by simpa using h ti hti
    cases ti
    cases hw
    rfl
  rw [List.map_congr_left this, List.map_id']

/-- the input count, preceded by the marker `00 01` when there are witnesses (`w`): the reader takes `00` for a
count of zero, which no transaction has, and `01` for the flag -/
theorem readTxCount_rt {w : Bool} {n : Nat} (hn : n ≠ 0) (h : n < 2 ^ 64) {f : Nat × Nat → Dec β} {cs : Bytes}
    {b : β} (hf : Reads (f (if w then 1 else 0, n)) cs b) :
    Reads (do
        let count0 ← readVarInt
        let p ← (if count0 = 0 then do
            let f ← readLE 1
            if f ≠ 1 then Dec.fail
            else
              let c ← readVarInt
              pure (f, c)
          else pure (0, count0) : Dec (Nat × Nat))
        f p)
      ((if w then [0x00, 0x01] else []) ++ (encVarInt n ++ cs)) b := by
  cases w
  · refine (readVarInt_rt h).bind ?_
    rw [if_neg hn]
    exact hf
  · show Reads _ (encVarInt 0 ++ ([1] ++ encVarInt n ++ cs)) b
    refine (readVarInt_rt (by decide)).bind ?_
    rw [if_pos rfl]
    refine ((readLE_byte 1).bind ?_).bind hf
    rw [if_neg (by decide)]
    exact (readVarInt_rt h).map _

/-- the witnesses follow the outputs iff some input has one (`w`); they are put back into the inputs, which were
read without them -/
theorem readTxWitnesses_rt {ins : List TxIn} {slab : Nat} {w : Bool} (h : ∀ ti ∈ ins, ti.WF)
    (hw : (ins.any fun ti => !ti.witness.isEmpty) = w) (hs : (ins.map TxIn.witBytes).sum ≤ slab) :
    Reads (if (if w then 1 else 0) ≠ 0 then do
          let (ins', _) ← readWitnesses (ins.map TxIn.noWit) slab
          if ins'.any (fun ti => !ti.witness.isEmpty) then pure ins' else Dec.fail
        else pure (ins.map TxIn.noWit) : Dec (List TxIn))
      (if w then (ins.map fun ti => encWitness ti.witness).flatten else []) ins := by
  cases w
  · rw [if_neg (by decide), map_noWit_of_no_witness ins hw]
    exact .pure_nil ins
  · rw [if_pos (by decide)]
    refine (readWitnesses_rt h hs).bind_nil ?_
    dsimp only
    rw [hw, if_pos rfl]
    exact .pure_nil ins

theorem readTx_rt {t : Tx} (h : t.WF) : Reads readTx (encTx t) t := by
  obtain ⟨hv, hl, hne, hnin, hnout, hins, houts, hsb⟩ := h
  -- the slab pays for the inputs' scripts, then the outputs', then the witnesses
  unfold Tx.scriptBytes at hsb
  rw [scriptBytes_split] at hsb
  have hIns := Reads.repeatDec (s := scriptSlabSize) (fun ti hti _ => readTxIn_rt (hins ti hti)) (by omega)
  have hOuts := Reads.repeatDec (f := id) (cost := fun o => o.pkScript.length)
    (s := scriptSlabSize - (t.ins.map fun ti => ti.sigScript.length).sum)
    (fun o ho _ => readTxOut_rt (houts o ho)) (by omega)
  rw [List.map_id] at hOuts
  unfold readTx encTx
  simp only [List.append_assoc]
  refine (readLE_rt (n := 4) hv).bind <|
    readTxCount_rt (mt List.length_eq_zero_iff.mp hne) (Nat.lt_of_le_of_lt hnin (by decide)) ?_
  dsimp only
  rw [if_neg (Nat.not_lt.mpr hnin)]
  refine hIns.bind <| (readVarInt_rt (Nat.lt_of_le_of_lt hnout (by decide))).bind ?_
  rw [if_neg (Nat.not_lt.mpr hnout)]
  exact hOuts.bind <| (readTxWitnesses_rt hins rfl (by omega)).bind <| (readLE_rt (n := 4) hl).map _

end Pool.C10
