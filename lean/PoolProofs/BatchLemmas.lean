import PoolProofs.BatchExamples
import PoolProofs.Guard
/-! Helper lemmas shared by the C01/C02/C03 proofs: what each accepting step of the model implies, and when `Verify`
accepts as a whole (`verifyWith_isOk`). -/
namespace Pool.Batch

theorem isOk_iff {ε α : Type} {r : Except ε α} : isOk r = true ↔ ∃ a, r = .ok a := by
  cases r <;> simp [isOk]

theorem isOk_unit {ε : Type} {r : Except ε Unit} : isOk r = true ↔ r = .ok () :=
  isOk_iff.trans ⟨fun ⟨_, h⟩ => h, fun h => ⟨_, h⟩⟩

theorem w64_w64 (x : Int) : w64 (w64 x) = w64 x := by unfold w64; exact Int.bmod_bmod
theorem w64_add_left (x y : Int) : w64 (w64 x + y) = w64 (x + y) := by unfold w64; exact Int.bmod_add_bmod
theorem w64_add_right (x y : Int) : w64 (x + w64 y) = w64 (x + y) := by unfold w64; exact Int.add_bmod_bmod
theorem w64_sub_right (x y : Int) : w64 (x - w64 y) = w64 (x - y) := by unfold w64; exact Int.sub_bmod_bmod
theorem w64_sub_left (x y : Int) : w64 (w64 x - y) = w64 (x - y) := by unfold w64; exact Int.bmod_sub_bmod

theorem w64_add_congr {x x' y y' : Int} (hx : w64 x = w64 x') (hy : w64 y = w64 y') : w64 (x + y) = w64 (x' + y') := by
  rw [← w64_add_left, ← w64_add_right, hx, hy, w64_add_left, w64_add_right]

theorem w64_sum_congr {α : Type} {f g : α → Int} {l : List α} (h : ∀ x ∈ l, w64 (f x) = w64 (g x)) :
    w64 (l.map f).sum = w64 (l.map g).sum := by
  induction l with
  | nil => rfl
  | cons x xs ih =>
    simp only [List.map_cons, List.sum_cons]
    exact w64_add_congr (h x List.mem_cons_self) (ih fun y hy => h y (List.mem_cons_of_mem _ hy))

theorem u32_u32_succ (c : Nat) : u32 (u32 c + 1) = u32 (c + 1) := Nat.mod_add_mod c _ 1

theorem w64_eq_self {x : Int} (h : I64 x) : w64 x = x := by
  unfold w64; unfold I64 at h
  apply Int.bmod_eq_of_le <;> omega

theorem w64_natCast {n : Nat} (h : n < 2 ^ 63) : w64 (n : Int) = n :=
  w64_eq_self ⟨by omega, by exact_mod_cast h⟩

theorem u64_natCast {n : Nat} (h : n < 2 ^ 64) : u64 (n : Int) = n := by
  unfold u64
  rw [Int.emod_eq_of_lt (Int.natCast_nonneg n) (by exact_mod_cast h), Int.toNat_natCast]

theorem toSatoshis_spec (t : Their) (h : t.unitsFilled < 2 ^ 32) : toSatoshis t.unitsFilled = unitsSat t := by
  unfold toSatoshis unitsSat
  have hb : t.unitsFilled * Pool.Gen.Batch.baseSupplyUnit < 2 ^ 63 := by
    simp only [Pool.Gen.Batch.baseSupplyUnit]; omega
  rw [← Int.natCast_mul, u64_natCast (by omega), w64_natCast hb]
  rfl

/-- the balance delta `validateMatchedOrder` returns when it accepts -/
def matchDelta (env : Env) (b : Batch) (o : Ours) (cp : Nat) (t : Their) : Int :=
  let amt := toSatoshis t.unitsFilled
  if o.isAsk then
    makerDelta env b.execBase b.execRate cp amt
      (if o.auctionType == Pool.Gen.Batch.btcOutboundLiquidity then w64 (amt + t.selfChanBalance) else amt) t.duration
  else
    takerDelta env b.execBase b.execRate cp
      (if o.auctionType == Pool.Gen.Batch.btcOutboundLiquidity then w64 (amt + o.selfChanBalance) else amt)
      o.selfChanBalance o.duration

section
variable {env : Env} {b : Batch} {o : Ours} {t : Their} {cp : Nat} {d : Int}

theorem validateMatchedOrder_eq_ok :
    validateMatchedOrder env b o t cp = .ok d ↔
      t.isAsk ≠ o.isAsk ∧ t.duration = o.duration ∧ t.auctionType = o.auctionType ∧ t.nodeKey ≠ env.ourNode ∧
        (if o.isAsk then o.rate ≤ t.rate else t.rate ≤ o.rate) ∧ d = matchDelta env b o cp t := by
  unfold validateMatchedOrder matchDelta
  -- Go tests the duration fourth; `and_left_comm` pushes that clause to the same place on both sides
  cases o.isAsk <;>
    simp only [ite_error_eq_ok, beq_iff_eq, bne_iff_ne, ne_eq, Decidable.not_not, Nat.not_lt, gt_iff_lt,
      Except.ok.injEq, if_true, if_false, Bool.false_eq_true, eq_comm (a := d), eq_comm (a := o.auctionType),
      and_left_comm (a := t.duration = o.duration)]

theorem validateMatchedOrder_value (h : validateMatchedOrder env b o t cp = .ok d) : d = matchDelta env b o cp t :=
  (validateMatchedOrder_eq_ok.mp h).2.2.2.2.2

theorem validateMatchedOrder_duration (h : validateMatchedOrder env b o t cp = .ok d) : t.duration = o.duration :=
  (validateMatchedOrder_eq_ok.mp h).2.1

end

theorem orderChecks_ok {o : Ours} {cp units : Nat} (h : orderChecks o cp units = .ok ()) :
    (if o.isAsk then o.rate ≤ cp else cp ≤ o.rate) ∧ units ≤ o.unitsUnfulfilled ∧
    (o.auctionType ≠ Pool.Gen.Batch.btcOutboundLiquidity → o.minUnitsMatch ≤ units) := by
  unfold orderChecks at h
  simp only [ite_error_eq_ok, Bool.and_eq_true, Bool.not_eq_true', decide_eq_true_eq, bne_iff_ne, ne_eq, not_and,
    Nat.not_lt] at h
  obtain ⟨h1, h2, h3, h4, _⟩ := h
  refine ⟨?_, h3, h4⟩
  cases hA : o.isAsk
  · exact h1 hA
  · exact h2 hA

def foldW (δ : Their → Int) (a : Int) (ts : List Their) : Int := ts.foldl (fun a t => w64 (a + δ t)) a
def foldC (c : Nat) (ts : List Their) : Nat := ts.foldl (fun c _ => u32 (c + 1)) c
def foldU (u : Nat) (ts : List Their) : Nat := ts.foldl (fun u t => u64 (u + t.unitsFilled)) u

def MatchesOk (env : Env) (b : Batch) (o : Ours) (cp : Nat) (ts : List Their) : Prop :=
  ∀ t ∈ ts, validateMatchedOrder env b o t cp = .ok (matchDelta env b o cp t) ∧ channelOutput env b.txOuts o t = .ok ()

theorem matchLoop_eq_ok {env : Env} {b : Batch} {o : Ours} {cp : Nat} {ts : List Their} {bal : Int} {c u : Nat}
    {r : Int × Nat × Nat} :
    matchLoop env b o cp ts (bal, c, u) = .ok r ↔
      MatchesOk env b o cp ts ∧ r = (foldW (matchDelta env b o cp) bal ts, foldC c ts, foldU u ts) := by
  unfold MatchesOk
  induction ts generalizing bal c u with
  | nil => simp [matchLoop, foldW, foldC, foldU, eq_comm]
  | cons t ts ih =>
    simp only [matchLoop, List.forall_mem_cons]
    cases hv : validateMatchedOrder env b o t cp with
    | error e => simp
    | ok d =>
      cases validateMatchedOrder_value hv
      cases channelOutput env b.txOuts o t with
      | error e => simp
      | ok _ => simpa [foldW, foldC, foldU] using ih

theorem foldW_eq (δ : Their → Int) (a : Int) (ts : List Their) :
    foldW δ a ts = if ts = [] then a else w64 (a + (ts.map δ).sum) := by
  induction ts generalizing a with
  | nil => rfl
  | cons t ts ih =>
    have := ih (w64 (a + δ t))
    simp only [foldW, List.foldl_cons] at this ⊢
    rw [this]
    split
    · simp [*]
    · simp [w64_add_left, Int.add_assoc]

theorem w64_foldW (δ : Their → Int) (a : Int) (ts : List Their) : w64 (foldW δ a ts) = w64 (a + (ts.map δ).sum) := by
  rw [foldW_eq]; split <;> simp [*, w64_w64]

theorem foldC_u32 (n : Nat) (ts : List Their) : foldC (u32 n) ts = u32 (n + ts.length) := by
  induction ts generalizing n with
  | nil => rfl
  | cons t ts ih =>
    have := ih (n + 1)
    simp only [foldC, List.foldl_cons, List.length_cons, u32_u32_succ] at this ⊢
    rw [this, Nat.add_assoc, Nat.add_comm 1]

/-- uint64 sum of uint32 values cannot wrap when there are fewer than 2^32 of them -/
theorem foldU_eq (ts : List Their) (u : Nat) (hb : ∀ t ∈ ts, t.unitsFilled < 2 ^ 32)
    (hl : u + ts.length * 2 ^ 32 < 2 ^ 64) : foldU u ts = u + (ts.map (·.unitsFilled)).sum := by
  induction ts generalizing u with
  | nil => rfl
  | cons t ts ih =>
    have ht := hb t List.mem_cons_self
    rw [List.length_cons, Nat.add_mul, Nat.one_mul] at hl
    simp only [foldU, List.foldl_cons, List.map_cons, List.sum_cons, ← Nat.add_assoc]
    rw [← Int.natCast_add, u64_natCast (by omega)]
    exact ih _ (fun t' ht' => hb t' (List.mem_cons_of_mem _ ht')) (by omega)

theorem findEntry_eq_find? (k : Key) (st : Tallies) : findEntry k st = st.find? (·.key == k) := by
  induction st with
  | nil => rfl
  | cons x xs ih => simp only [findEntry, List.find?_cons, ih]; split <;> simp [*]

theorem findAcct_eq_find? (k : Key) (l : List Acct) : findAcct k l = l.find? (·.key == k) := by
  induction l with
  | nil => rfl
  | cons x xs ih => simp only [findAcct, List.find?_cons, ih]; split <;> simp [*]

theorem findOrder_eq_find? (n : Nonce) (l : List Ours) : findOrder n l = l.find? (·.nonce == n) := by
  induction l with
  | nil => rfl
  | cons x xs ih => simp only [findOrder, List.find?_cons, ih]; split <;> simp [*]

theorem findEntry_key {k : Key} {e : Entry} {st : Tallies} (h : findEntry k st = some e) : e.key = k := by
  rw [findEntry_eq_find?] at h; simpa using List.find?_some h

theorem findAcct_key {k : Key} {a : Acct} {l : List Acct} (h : findAcct k l = some a) : a.key = k ∧ a ∈ l := by
  rw [findAcct_eq_find?] at h; exact ⟨by simpa using List.find?_some h, List.mem_of_find?_eq_some h⟩

theorem findOrder_nonce {n : Nonce} {o : Ours} {l : List Ours} (h : findOrder n l = some o) : o.nonce = n ∧ o ∈ l := by
  rw [findOrder_eq_find?] at h; exact ⟨by simpa using List.find?_some h, List.mem_of_find?_eq_some h⟩

theorem findEntry_append (k : Key) (e : Entry) (st : Tallies) :
    findEntry k (st ++ [e]) = (findEntry k st).or (if e.key == k then some e else none) := by
  simp only [findEntry_eq_find?, List.find?_append, List.find?_singleton]

theorem findEntry_setEntry {e : Entry} {st : Tallies} (h : (findEntry e.key st).isSome) (k : Key) :
    findEntry k (setEntry e st) = if k = e.key then some e else findEntry k st := by
  induction st with
  | nil => simp [findEntry] at h
  | cons y ys ih =>
    simp only [findEntry, setEntry, beq_iff_eq] at h ⊢
    by_cases hy : y.key = e.key
    · simp only [hy, if_true, findEntry, beq_iff_eq, eq_comm (a := k)]
      split <;> rfl
    · simp only [hy, if_false, findEntry, beq_iff_eq] at h ⊢
      rw [ih h]
      by_cases hk : k = e.key
      · simp [hk, hy]
      · simp [hk]

/-- the spec's `chargedTo` over any list of entries (the invariants speak of prefixes and permutations of `b.matched`) -/
def contribs (env : Env) (k : Key) (l : List (Nonce × List Their)) : List (Ours × List Their) :=
  l.filterMap fun nm => match findOrder nm.1 env.orders with
    | some o => if o.acctKey = k then some (o, nm.2) else none
    | none => none

theorem chargedTo_eq_contribs (env : Env) (b : Batch) (k : Key) : chargedTo env b k = contribs env k b.matched := rfl

theorem contribs_snoc {env : Env} {nm : Nonce × List Their} {o : Ours} (ho : findOrder nm.1 env.orders = some o)
    (k : Key) (pre : List (Nonce × List Their)) :
    contribs env k (pre ++ [nm]) = if o.acctKey = k then contribs env k pre ++ [(o, nm.2)] else contribs env k pre := by
  simp only [contribs, List.filterMap_append, List.filterMap_cons, ho, List.filterMap_nil]
  by_cases h : o.acctKey = k <;> simp [h]

/-- what the inner loop for order `o` and its matches `ts` does to the entry -/
def charge (env : Env) (b : Batch) (o : Ours) (ts : List Their) (e : Entry) : Entry :=
  { e with bal := foldW (matchDelta env b o (clearingPrice b o.duration)) e.bal ts, chans := foldC e.chans ts }

/-- the balance of a tally that started at `v` after the entries `cs` have been charged to it, as `Verify` computes it -/
def tallyBal (env : Env) (b : Batch) (v : Int) (cs : List (Ours × List Their)) : Int :=
  cs.foldl (fun x c => foldW (matchDelta env b c.1 (clearingPrice b c.1.duration)) x c.2) v

/-- the tally entry of account `a` when the entries `cs` have been charged to it (`cs = []`: as created on first use) -/
def tally (env : Env) (b : Batch) (k : Key) (a : Acct) (cs : List (Ours × List Their)) : Entry :=
  ⟨k, tallyBal env b a.value cs, u32 (cs.map (·.2.length)).sum, a⟩

theorem charge_tally (env : Env) (b : Batch) (k : Key) (a : Acct) (cs : List (Ours × List Their)) (o : Ours)
    (ts : List Their) : charge env b o ts (tally env b k a cs) = tally env b k a (cs ++ [(o, ts)]) := by
  simp [charge, tally, tallyBal, foldC_u32]

/-- `tallies[k]`: there is an entry as soon as something is charged to account `k` -/
def tallyAt (env : Env) (b : Batch) (k : Key) (cs : List (Ours × List Their)) : Option Entry :=
  if cs = [] then none else (findAcct k env.accounts).map (tally env b k · cs)

section
variable {env : Env} {b : Batch} {k : Key} {cs : List (Ours × List Their)}

theorem tallyAt_of_ne_nil (h : cs ≠ []) : tallyAt env b k cs = (findAcct k env.accounts).map (tally env b k · cs) :=
  if_neg h

theorem tallyAt_eq_none {a : Acct} (ha : findAcct k env.accounts = some a) : tallyAt env b k cs = none ↔ cs = [] := by
  simp [tallyAt, ha]

theorem tallyAt_eq_some {e : Entry} :
    tallyAt env b k cs = some e ↔ cs ≠ [] ∧ ∃ a, findAcct k env.accounts = some a ∧ e = tally env b k a cs := by
  by_cases h : cs = [] <;> simp [tallyAt, h, eq_comm (b := e)]

end

/-- the invariant of the per-order loop after the entries `pre` -/
def TracksAll (env : Env) (b : Batch) (st : Tallies) (pre : List (Nonce × List Their)) : Prop :=
  ∀ k, findEntry k st = tallyAt env b k (contribs env k pre)

/-- the checks on one `MatchedOrders` entry that do not involve the tallies -/
structure OrderOk (env : Env) (b : Batch) (o : Ours) (ts : List Their) : Prop where
  keyParses : o.acctKeyParses = true
  matchesOk : MatchesOk env b o (clearingPrice b o.duration) ts
  checks : orderChecks o (clearingPrice b o.duration) (foldU 0 ts) = .ok ()

/-- acceptance condition of one `MatchedOrders` entry, whatever the tallies -/
def OrderAccept (env : Env) (b : Batch) (nm : Nonce × List Their) : Prop :=
  ∃ o, findOrder nm.1 env.orders = some o ∧ (∃ a, findAcct o.acctKey env.accounts = some a) ∧ OrderOk env b o nm.2

/-- `tallies[acctKey]`, created from the stored account on first use -/
def entryFor (env : Env) (st : Tallies) (k : Key) : Except Err (Tallies × Entry) :=
  match findEntry k st with
  | some e => .ok (st, e)
  | none => match findAcct k env.accounts with
    | none => .error .acctNotFound
    | some a => let e : Entry := ⟨k, a.value, 0, a⟩; .ok (st ++ [e], e)

theorem entryFor_of_acct {env : Env} {st : Tallies} {k : Key} {a : Acct} (h : findAcct k env.accounts = some a) :
    ∃ r, entryFor env st k = .ok r := by
  unfold entryFor
  cases findEntry k st <;> simp [h]

theorem entryFor_ok {env : Env} {b : Batch} {st st1 : Tallies} {pre : List (Nonce × List Their)} {k : Key} {e : Entry}
    (hst : TracksAll env b st pre) (h : entryFor env st k = .ok (st1, e)) :
    (∀ k', findEntry k' st1 = if k' = k then some e else findEntry k' st) ∧
      ∃ a, findAcct k env.accounts = some a ∧ e = tally env b k a (contribs env k pre) := by
  unfold entryFor at h
  have hk := (hst k).symm
  cases hf : findEntry k st with
  | some x =>
    rw [hf] at h hk
    cases h
    exact ⟨fun k' => by split <;> simp [*], (tallyAt_eq_some.mp hk).2⟩
  | none =>
    rw [hf] at h hk
    cases ha : findAcct k env.accounts with
    | none => simp [ha] at h
    | some a =>
      rw [ha] at h
      cases h
      refine ⟨fun k' => ?_, a, rfl, ?_⟩
      · simp only [findEntry_append, beq_iff_eq, eq_comm (a := k)]
        split <;> simp [*]
      · rw [(tallyAt_eq_none ha).mp hk]
        rfl

theorem verifyOrder_eq_ok {env : Env} {b : Batch} {st st' : Tallies} {nm : Nonce × List Their} :
    verifyOrder env b st nm = .ok st' ↔
      ∃ o, findOrder nm.1 env.orders = some o ∧ OrderOk env b o nm.2 ∧
        ∃ st1 e, entryFor env st o.acctKey = .ok (st1, e) ∧ st' = setEntry (charge env b o nm.2 e) st1 := by
  unfold verifyOrder
  cases ho : findOrder nm.1 env.orders with
  | none => simp
  | some o =>
    simp only [ite_error_eq_ok, Bool.not_eq_true', Bool.not_eq_false, Option.some.injEq, exists_eq_left']
    -- the model inlines `entryFor` as a `let`; name it again
    change _ ∧ (match entryFor env st o.acctKey with
      | Except.error e => Except.error e
      | Except.ok (st, e) => _) = _ ↔ _
    cases entryFor env st o.acctKey with
    | error e => simp
    | ok r =>
      obtain ⟨st1, e⟩ := r
      simp only [Except.ok.injEq, Prod.mk.injEq]
      constructor
      · rintro ⟨hkey, h⟩
        split at h
        · contradiction
        rename_i bal chans units hm
        obtain ⟨hall, hr⟩ := matchLoop_eq_ok.mp hm
        split at h
        · contradiction
        rename_i hoc
        cases hr; cases h
        exact ⟨⟨hkey, hall, hoc⟩, _, _, ⟨rfl, rfl⟩, rfl⟩
      · rintro ⟨⟨hkey, hall, hoc⟩, _, _, ⟨rfl, rfl⟩, rfl⟩
        rw [matchLoop_eq_ok.mpr ⟨hall, rfl⟩]
        simp only [hoc]
        exact ⟨hkey, rfl⟩

theorem verifyOrder_ok {env : Env} {b : Batch} {st st' : Tallies} {pre : List (Nonce × List Their)}
    {nm : Nonce × List Their} (hst : TracksAll env b st pre) (h : verifyOrder env b st nm = .ok st') :
    OrderAccept env b nm ∧ TracksAll env b st' (pre ++ [nm]) := by
  obtain ⟨o, ho, hok, st1, e, hE, rfl⟩ := verifyOrder_eq_ok.mp h
  obtain ⟨hfind, a, ha, rfl⟩ := entryFor_ok hst hE
  refine ⟨⟨o, ho, ⟨a, ha⟩, hok⟩, fun k => ?_⟩
  rw [charge_tally, findEntry_setEntry (by rw [hfind]; simp [tally]), hfind, contribs_snoc ho]
  by_cases hk : k = o.acctKey
  · subst hk
    simp [tally, tallyAt_of_ne_nil, ha]
  · simp only [tally, if_neg hk, if_neg (Ne.symm hk)]
    exact hst k

theorem verifyOrder_of_accept {env : Env} {b : Batch} {st : Tallies} {nm : Nonce × List Their}
    (h : OrderAccept env b nm) : ∃ st', verifyOrder env b st nm = .ok st' := by
  obtain ⟨o, ho, ⟨a, ha⟩, hok⟩ := h
  obtain ⟨⟨st1, e⟩, hE⟩ := entryFor_of_acct (st := st) ha
  exact ⟨_, verifyOrder_eq_ok.mpr ⟨o, ho, hok, st1, e, hE, rfl⟩⟩

theorem verifyOrders_ok {env : Env} {b : Batch} {l : List (Nonce × List Their)} {st st' : Tallies}
    {pre : List (Nonce × List Their)} (hst : TracksAll env b st pre) (h : verifyOrders env b st l = .ok st') :
    (∀ nm ∈ l, OrderAccept env b nm) ∧ TracksAll env b st' (pre ++ l) := by
  induction l generalizing st pre with
  | nil => cases h; simpa using hst
  | cons nm rest ih =>
    simp only [verifyOrders] at h
    split at h
    · contradiction
    rename_i st1 h1
    obtain ⟨ha, hst1⟩ := verifyOrder_ok hst h1
    obtain ⟨hb, hst'⟩ := ih hst1 h
    exact ⟨List.forall_mem_cons.mpr ⟨ha, hb⟩, by simpa using hst'⟩

theorem verifyOrders_of_accept {env : Env} {b : Batch} {l : List (Nonce × List Their)} {st : Tallies}
    (h : ∀ nm ∈ l, OrderAccept env b nm) : ∃ st', verifyOrders env b st l = .ok st' := by
  induction l generalizing st with
  | nil => exact ⟨st, rfl⟩
  | cons nm rest ih =>
    obtain ⟨st1, h1⟩ := verifyOrder_of_accept (st := st) (h nm List.mem_cons_self)
    obtain ⟨st', h'⟩ := ih (st := st1) fun x hx => h x (List.mem_cons_of_mem _ hx)
    exact ⟨st', by simp only [verifyOrders, h1, h']⟩

theorem tracksAll_nil (env : Env) (b : Batch) : TracksAll env b [] [] := fun _ => rfl

theorem nodeFilter_eq_ok {env : Env} {l : List (Nonce × List Their)} :
    nodeFilter env l = .ok () ↔ ∀ nm ∈ l, ∃ o, findOrder nm.1 env.orders = some o ∧
      ∀ t ∈ nm.2, isNodeIDAValidMatch t.nodeKey o.allowed o.notAllowed = true := by
  induction l with
  | nil => simp [nodeFilter]
  | cons x rest ih =>
    simp only [nodeFilter, List.forall_mem_cons]
    cases findOrder x.1 env.orders with
    | none => simp
    | some o => simp only [ite_else_error_eq_ok, ih, List.all_eq_true, Option.some.injEq, exists_eq_left']

theorem isNodeIDAValidMatch_spec {k : Key} {allowed notAllowed : List Key}
    (h : isNodeIDAValidMatch k allowed notAllowed = true) :
    (allowed ≠ [] → k ∈ allowed) ∧ (allowed = [] → k ∉ notAllowed) := by
  unfold isNodeIDAValidMatch at h
  cases allowed with
  | cons a as => simpa using h
  | nil =>
    cases notAllowed with
    | nil => simp
    | cons => simpa using h

theorem determineCommitmentType_eq (a c : Nat) :
    determineCommitmentType a c =
      if a = 1 ∨ c = 1 then "SCRIPT_ENFORCED_LEASE" else if a = 2 ∧ c = 2 then "SIMPLE_TAPROOT"
      else "UNKNOWN_COMMITMENT_TYPE" := by
  simp only [determineCommitmentType, determineCommitmentType.go, Pool.Gen.Batch.commitCases,
    Pool.Gen.Batch.commitDefault]
  -- case by case, so that the order of the regenerated cases and of their operands does not matter
  by_cases h1 : a = 1 <;> by_cases h2 : c = 1 <;> by_cases h3 : a = 2 <;> by_cases h4 : c = 2 <;>
    simp [h1, h2, h3, h4] <;> omega

/-- The checks of one iteration of the account-diff loop on the tally entry found (a check the rule set lacks holds
vacuously); the duplicate test, which does not look at the entry, is left out. -/
def DiffChecks (env : Env) (rules : Rules) (b : Batch) (best : UInt32) (d : Diff) (e : Entry) : Prop :=
  d.endingBalance = w64 (e.bal - estimateTraderFee e.chans b.feeRate e.acct.version) ∧
  (rules.boundNewExpiry = true → extendsExpiry b d = true →
    d.newExpiry ≤ best.toNat + Pool.Gen.Batch.maxAccountExpiry) ∧
  (rules.validateNewVersion = true → upgradesVersion b e.acct d = true → validateVersion d.newVersion = true) ∧
  validateEndingState env b.txOuts (acctAfter b e.acct d) d = .ok ()

/-- the entry that iteration writes back -/
def diffEntry (b : Batch) (d : Diff) (e : Entry) : Entry :=
  { e with bal := w64 (e.bal - estimateTraderFee e.chans b.feeRate e.acct.version), acct := acctAfter b e.acct d }

theorem verifyDiff_eq_ok {env : Env} {rules : Rules} {b : Batch} {best : UInt32} {st st' : Tallies} {seen : List Key}
    {d : Diff} :
    verifyDiff env rules b best st seen d = .ok st' ↔
      (rules.rejectDuplicateDiffs = true → d.acctKey ∉ seen) ∧
      ∃ e, findEntry d.acctKey st = some e ∧ DiffChecks env rules b best d e ∧ st' = setEntry (diffEntry b d e) st := by
  unfold verifyDiff DiffChecks
  cases findEntry d.acctKey st with
  | none => simp
  | some e =>
    simp only [ite_error_eq_ok, Option.some.injEq, exists_eq_left']
    cases validateEndingState env b.txOuts (acctAfter b e.acct d) d <;>
      simp [diffEntry, eq_comm (a := st'), and_assoc]

/-- the account-diff loop on the lookups `f` of the tallies -/
def DiffsOk (env : Env) (rules : Rules) (b : Batch) (best : UInt32) : (Key → Option Entry) → List Key → List Diff → Prop
  | _, _, [] => True
  | f, seen, d :: ds => (rules.rejectDuplicateDiffs = true → d.acctKey ∉ seen) ∧
      ∃ e, f d.acctKey = some e ∧ DiffChecks env rules b best d e ∧
        DiffsOk env rules b best (fun k => if k = d.acctKey then some (diffEntry b d e) else f k) (d.acctKey :: seen) ds

theorem verifyDiffs_isOk {env : Env} {rules : Rules} {b : Batch} {best : UInt32} {ds : List Diff} {st : Tallies}
    {seen : List Key} :
    isOk (verifyDiffs env rules b best st seen ds) = true ↔ DiffsOk env rules b best (findEntry · st) seen ds := by
  induction ds generalizing st seen with
  | nil => simp [verifyDiffs, DiffsOk, isOk]
  | cons d rest ih =>
    have hset {e : Entry} (he : findEntry d.acctKey st = some e) : (findEntry · (setEntry (diffEntry b d e) st)) =
        fun k => if k = d.acctKey then some (diffEntry b d e) else findEntry k st := by
      have hk : (diffEntry b d e).key = d.acctKey := findEntry_key (e := e) he
      funext k
      rw [findEntry_setEntry (by rw [hk, he]; rfl), hk]
    simp only [verifyDiffs, DiffsOk]
    constructor
    · intro h
      split at h
      · contradiction
      rename_i st1 h1
      obtain ⟨hs, e, he, hc, rfl⟩ := verifyDiff_eq_ok.mp h1
      exact ⟨hs, e, he, hc, hset he ▸ ih.mp h⟩
    · rintro ⟨hs, e, he, hc, h⟩
      rw [verifyDiff_eq_ok.mpr ⟨hs, e, he, hc, rfl⟩]
      exact ih.mpr (hset he ▸ h)

/-- `Verify` when Go iterates `MatchedOrders` in the order `l` -/
def verifyWith (env : Env) (rules : Rules) (b : Batch) (best : UInt32) (l : List (Nonce × List Their)) :
    Except Err Tallies :=
  if b.version != env.version then .error .version
  else if !heightOk best b.heightHint then .error .height
  else match verifyOrders env b [] l with
    | .error e => .error e
    | .ok st => verifyDiffs env rules b best st [] b.diffs

theorem verify_eq_verifyWith (env : Env) (rules : Rules) (b : Batch) (best : UInt32) :
    verify env rules b best = verifyWith env rules b best b.matched := rfl

/-- when `Verify` accepts, whatever the iteration order `l` and the rule set -/
structure Accepted (env : Env) (rules : Rules) (b : Batch) (best : UInt32) (l : List (Nonce × List Their)) : Prop where
  version : b.version = env.version
  height : heightOk best b.heightHint = true
  orders : ∀ nm ∈ l, OrderAccept env b nm
  diffs : DiffsOk env rules b best (fun k => tallyAt env b k (contribs env k l)) [] b.diffs

theorem verifyWith_isOk {env : Env} {rules : Rules} {b : Batch} {best : UInt32} {l : List (Nonce × List Their)} :
    isOk (verifyWith env rules b best l) = true ↔ Accepted env rules b best l := by
  unfold verifyWith
  simp only [isOk_iff, ite_error_eq_ok, bne_iff_ne, ne_eq, Decidable.not_not, Bool.not_eq_true', Bool.not_eq_false]
  constructor
  · rintro ⟨st, hv, hh, hd⟩
    split at hd
    · contradiction
    rename_i st0 h0
    obtain ⟨ha, ht⟩ := verifyOrders_ok (tracksAll_nil env b) h0
    exact ⟨hv, hh, ha, funext ht ▸ verifyDiffs_isOk.mp (isOk_iff.mpr ⟨st, hd⟩)⟩
  · rintro ⟨hv, hh, ha, hd⟩
    obtain ⟨st0, h0⟩ := verifyOrders_of_accept (st := []) ha
    obtain ⟨st, hd⟩ := isOk_iff.mp (verifyDiffs_isOk.mpr (funext (verifyOrders_ok (tracksAll_nil env b) h0).2 ▸ hd))
    exact ⟨st, hv, hh, by rw [h0]; exact hd⟩

theorem Accepted.of_verify {env : Env} {rules : Rules} {b : Batch} {best : UInt32} {st : Tallies}
    (h : verify env rules b best = .ok st) : Accepted env rules b best b.matched :=
  verifyWith_isOk.mp (isOk_iff.mpr ⟨st, h⟩)

theorem orderMatchValidate_eq_ok {env : Env} {rules : Rules} {b : Batch} {best : UInt32} {p : Option String}
    {st : Tallies} :
    (orderMatchValidate env rules b best p).1 = .ok st ↔
      verify env rules b best = .ok st ∧ nodeFilter env b.matched = .ok () := by
  unfold orderMatchValidate
  cases verify env rules b best with
  | error e => simp
  | ok st0 => cases nodeFilter env b.matched <;> simp

/-- evaluated here once for the non-vacuity examples of C02, C02Sane and C03 -/
theorem exBatch_accepted : isOk (verify exEnv Rules.fixed exBatch 101) = true := by decide +kernel

end Pool.Batch
