import PoolProofs.Float64Lemmas
/-! `rnd` is monotone, and with it every correctly rounded operation (`IsRnd.mono`), `floor` and `premium`. -/
namespace Pool.Float64

theorem nat_div_le_div_cross {N1 D1 N2 D2 : Nat} (h1 : 0 < D1) (h2 : 0 < D2) (h : N1 * D2 ≤ N2 * D1) :
    N1 / D1 ≤ N2 / D2 := by
  rw [Nat.le_div_iff_mul_le h2]
  refine Nat.le_of_mul_le_mul_right ?_ h1
  calc N1 / D1 * D2 * D1 = N1 / D1 * D1 * D2 := by ring
    _ ≤ N1 * D2 := Nat.mul_le_mul_right _ (Nat.div_mul_le_self N1 D1)
    _ ≤ N2 * D1 := h

theorem roundNE_ge_floor (N D : Nat) : N / D ≤ roundNE N D := by
  unfold roundNE; simp only; split <;> omega

theorem roundNE_le_floor_succ (N D : Nat) : roundNE N D ≤ N / D + 1 := by
  unfold roundNE; simp only; split <;> omega

theorem half_le_of_frac_le {r1 D1 r2 D2 : Nat} (h1 : 0 < D1) (h2 : 0 < D2) (hr : r1 * D2 ≤ r2 * D1) :
    (D1 ≤ 2 * r1 → D2 ≤ 2 * r2) ∧ (D1 < 2 * r1 → D2 < 2 * r2) := by
  have key : D2 * (2 * r1) ≤ 2 * r2 * D1 := by
    calc D2 * (2 * r1) = 2 * (r1 * D2) := by ring
      _ ≤ 2 * (r2 * D1) := Nat.mul_le_mul_left _ hr
      _ = 2 * r2 * D1 := by ring
  exact ⟨fun h => Nat.le_of_mul_le_mul_right ((Nat.mul_le_mul_left _ h).trans key) h1,
    fun h => Nat.lt_of_mul_lt_mul_right ((Nat.mul_lt_mul_of_pos_left h h2).trans_le key)⟩

theorem roundNE_mono {N1 D1 N2 D2 : Nat} (h1 : 0 < D1) (h2 : 0 < D2) (h : N1 * D2 ≤ N2 * D1) :
    roundNE N1 D1 ≤ roundNE N2 D2 := by
  rcases (nat_div_le_div_cross h1 h2 h).lt_or_eq with hlt | heq
  · exact le_trans (roundNE_le_floor_succ N1 D1) (le_trans hlt (roundNE_ge_floor N2 D2))
  · -- same integer part: the fractional parts are ordered, so the second rounds up whenever the first does
    have hr : N1 % D1 * D2 ≤ N2 % D2 * D1 := by
      have e := Nat.div_add_mod N1 D1
      have e2 := Nat.div_add_mod N2 D2
      rw [heq] at e
      have : (D1 * (N2 / D2) + N1 % D1) * D2 ≤ (D2 * (N2 / D2) + N2 % D2) * D1 := by rw [e, e2]; exact h
      rw [Nat.add_mul, Nat.add_mul, show D1 * (N2 / D2) * D2 = D2 * (N2 / D2) * D1 by ring] at this
      exact Nat.le_of_add_le_add_left this
    obtain ⟨k1, k2⟩ := half_le_of_frac_le h1 h2 hr
    unfold roundNE
    simp only
    rw [heq]
    split_ifs <;> omega

theorem two_zpow_mul_two_le {a b : ℤ} (h : a < b) : (2 : ℚ) ^ a * 2 ≤ (2 : ℚ) ^ b := by
  rw [← zpow_add_one₀ two_ne_zero]; exact zpow_le_zpow_right₀ one_le_two h

theorem expOf_mono {n1 d1 n2 d2 : Nat} (hn1 : 0 < n1) (hd1 : 0 < d1) (hn2 : 0 < n2) (hd2 : 0 < d2)
    (hq : (n1 : ℚ) / d1 ≤ (n2 : ℚ) / d2) : expOf n1 d1 ≤ expOf n2 d2 := by
  by_contra hgt
  have hl1 := (expOf_bounds n1 d1 hn1 hd1).1
  have hu2 := (expOf_bounds n2 d2 hn2 hd2).2
  have hstep := two_zpow_mul_two_le (not_le.1 hgt)
  rw [le_div_iff₀ (two_zpow_pos _)] at hl1
  rw [div_lt_iff₀ (two_zpow_pos _)] at hu2
  linarith

theorem natCast_div_le_div_iff {n1 d1 n2 d2 : Nat} (hd1 : 0 < d1) (hd2 : 0 < d2) :
    (n1 : ℚ) / d1 ≤ (n2 : ℚ) / d2 ↔ n1 * d2 ≤ n2 * d1 := by
  rw [div_le_div_iff₀ (by exact_mod_cast hd1) (by exact_mod_cast hd2)]
  exact_mod_cast Iff.rfl

theorem rnd_mono_q {n1 d1 n2 d2 : Nat} (hd1 : 0 < d1) (hd2 : 0 < d2) (hq : (n1 : ℚ) / d1 ≤ (n2 : ℚ) / d2) :
    (rnd n1 d1).val ≤ (rnd n2 d2).val := by
  rcases Nat.eq_zero_or_pos n1 with rfl | hn1
  · have : (rnd 0 d1).val = 0 := by simp [rnd, F.val]
    rw [this]; exact F.val_nonneg _
  have hn2 : 0 < n2 := Nat.pos_of_ne_zero fun h0 => by
    rw [h0, Nat.cast_zero, zero_div] at hq
    exact hq.not_gt (div_pos (Nat.cast_pos.2 hn1) (Nat.cast_pos.2 hd1))
  have hb1 := rnd_sig_bounds n1 d1 hn1 hd1
  have hb2 := rnd_sig_bounds n2 d2 hn2 hd2
  simp only [rnd, hn1.ne', hn2.ne', if_false, F.val] at hb1 hb2 ⊢
  rcases (expOf_mono hn1 hd1 hn2 hd2 hq).lt_or_eq with hlt | heq
  · -- lower binade: `m1 · 2^e1 ≤ 2^53 · 2^e1 ≤ 2^52 · 2^e2 ≤ m2 · 2^e2`
    calc _ ≤ (2 : ℚ) ^ 53 * (2 : ℚ) ^ (expOf n1 d1) :=
          mul_le_mul_of_nonneg_right (by exact_mod_cast hb1.2) (two_zpow_pos _).le
      _ = 2 ^ 52 * ((2 : ℚ) ^ (expOf n1 d1) * 2) := by ring
      _ ≤ 2 ^ 52 * (2 : ℚ) ^ (expOf n2 d2) := mul_le_mul_of_nonneg_left (two_zpow_mul_two_le hlt) (by positivity)
      _ ≤ _ := mul_le_mul_of_nonneg_right (by exact_mod_cast hb2.1) (two_zpow_pos _).le
  · -- same binade: the scaled values are ordered, and so are the significands
    rw [heq]
    have hs1 := scaleDen_pos hd1 (expOf n2 d2)
    have hs2 := scaleDen_pos hd2 (expOf n2 d2)
    have hm := roundNE_mono hs1 hs2 ((natCast_div_le_div_iff hs1 hs2).1 (by
      rw [scale_eq, scale_eq]; exact div_le_div_of_nonneg_right hq (two_zpow_pos _).le))
    exact mul_le_mul_of_nonneg_right (by exact_mod_cast hm) (two_zpow_pos _).le

theorem rnd_mono (n1 d1 n2 d2 : Nat) (hd1 : 0 < d1) (hd2 : 0 < d2) (h : n1 * d2 ≤ n2 * d1) :
    (rnd n1 d1).val ≤ (rnd n2 d2).val := rnd_mono_q hd1 hd2 ((natCast_div_le_div_iff hd1 hd2).2 h)

theorem IsRnd.mono {z z' : F} {q q' : ℚ} (h : IsRnd z q) (h' : IsRnd z' q') (hq : q ≤ q') : z.val ≤ z'.val := by
  obtain ⟨n, d, hd, rfl, rfl⟩ := h
  obtain ⟨n', d', hd', rfl, rfl⟩ := h'
  exact rnd_mono_q hd hd' hq

theorem ofNat_mono {a b : Nat} (h : a ≤ b) : (ofNat a).val ≤ (ofNat b).val :=
  (isRnd_ofNat a).mono (isRnd_ofNat b) (by exact_mod_cast h)

theorem mul_mono {x y x' y' : F} (hx : x.val ≤ x'.val) (hy : y.val ≤ y'.val) : (mul x y).val ≤ (mul x' y').val :=
  (isRnd_mul x y).mono (isRnd_mul x' y') (mul_le_mul hx hy y.val_nonneg (x.val_nonneg.trans hx))

theorem divNat_mono {x x' : F} {k : Nat} (hk : 0 < k) (hx : x.val ≤ x'.val) : (divNat x k).val ≤ (divNat x' k).val :=
  (isRnd_divNat x hk).mono (isRnd_divNat x' hk) (div_le_div_of_nonneg_right hx (Nat.cast_nonneg k))

theorem floor_mono {x y : F} (h : x.val ≤ y.val) : floor x ≤ floor y :=
  nat_div_le_div_cross x.den_pos y.den_pos
    ((natCast_div_le_div_iff x.den_pos y.den_pos).1 (by rwa [F.num_div_den, F.num_div_den]))

theorem premium_mono {a a' r r' d d' : Nat} (ha : a ≤ a') (hr : r ≤ r') (hd : d ≤ d') :
    premium a r d ≤ premium a' r' d' :=
  floor_mono (mul_mono (divNat_mono feeRateTotalParts_pos (mul_mono (ofNat_mono ha) (ofNat_mono hr))) (ofNat_mono hd))

end Pool.Float64
