import PoolProofs.C18Lemmas
import PoolProofs.C18ClientLemmas
/-! C18: the handshake, the backoff, the error switch and the re-subscription of the repaired client. -/
namespace Pool.C18

/-- **Handshake is verifiable**, for every hash function `H`: the commitment sent in step 1 opens to (key, revealed
nonce) and the signature of step 3 is by the account key over `H(commitment ‖ challenge)` – exactly what the auctioneer
recomputes (`serverVerify`).  A challenge field that is not 32 bytes long is zero-padded / truncated by the client
(`copyN 32`), as the Go `copy` does. -/
theorem C18_handshake_verifiable (H : Bytes → Bytes) (key nonce ch : Bytes) (ver : Nat) :
    ∃ c k n sig, authCommit H key nonce ver = .commit c ver ∧
      authSubscribe H key nonce ch = .subscribe k n sig ∧
      H (k ++ n) = c ∧ k = key ∧ n = nonce ∧
      sig = ⟨key, H (c ++ copyN 32 ch)⟩ ∧
      serverVerify H c (copyN 32 ch) (.subscribe k n sig) = true := by
  refine ⟨_, _, _, _, rfl, rfl, rfl, rfl, rfl, rfl, ?_⟩
  simp [serverVerify, commitAccount, authHash, concatAndHash]

/-- a 32-byte challenge (what the auctioneer sends) is used unchanged -/
theorem C18_challenge32_unchanged (ch : Bytes) (h : ch.length = 32) : copyN 32 ch = ch :=
  copyN_of_length h

example : serverVerify (fun b => b.reverse) (commitAccount (fun b => b.reverse) [2, 1] [9])
    (copyN 32 [7]) (authSubscribe (fun b => b.reverse) [2, 1] [9] [7]) = true := by decide

/-- **Backoff shape (reconnect / any positive start):** the waits requested double from `init` up to `max`, and so do
the logged backoffs, one step ahead.  The guard `max < 2^62` ns excludes int64 overflow of the doubling. -/
theorem C18_backoff_shape (initB minB maxB : Int) (numRetries fails : Nat)
    (hi : 0 < initB) (him : initB ≤ maxB) (hmax : maxB < 2 ^ 62) (hf : fails < numRetries) :
    connect initB minB maxB numRetries fails =
      ⟨(List.range (fails + 1)).map (fun i => min (initB * 2 ^ i) maxB),
       (List.range fails).map (fun i => min (initB * 2 ^ (i + 1)) maxB), true⟩ := by
  have := connLoop_shape (minB := minB) (by omega) hmax fails numRetries initB hi hf
  rw [Int.min_eq_left him] at this
  simp [connect, Nat.ne_zero_of_lt hf, this]

/-- **Backoff shape, first connect (start 0):** no wait before the first attempt, then `min, 2·min, 4·min, …` capped at
`max`. -/
theorem C18_backoff_shape_first (minB maxB : Int) (numRetries fails : Nat)
    (h0 : 0 < minB) (h1 : minB ≤ maxB) (hmax : maxB < 2 ^ 62) (hf : fails < numRetries) :
    (connect 0 minB maxB numRetries fails).waits = (List.range fails).map (fun i => min (minB * 2 ^ i) maxB) ∧
    (connect 0 minB maxB numRetries fails).ok = true := by
  obtain ⟨r, rfl⟩ : ∃ r, numRetries = r + 1 := ⟨numRetries - 1, by omega⟩
  cases fails with
  | zero => simp [connect, connLoop]
  | succ f =>
    have := connLoop_shape (minB := minB) (by omega) hmax f r minB h0 (by omega)
    rw [Int.min_eq_left h1] at this
    simp [connect, connLoop, nextBackoff_zero h1, this]

example : connect 1000 1000 5000 32767 4 = ⟨[1000, 2000, 4000, 5000, 5000], [2000, 4000, 5000, 5000], true⟩ := by
  decide
example : (connect 0 1000 5000 32767 4).waits = [1000, 2000, 4000, 5000] := by decide

/-- **Backoff at the two call sites** (consumes the regenerated call arguments): a reconnect
(`HandleServerShutdown`) restarts from the minimum and waits as in `C18_backoff_shape`, the first connect as in
`C18_backoff_shape_first`. -/
theorem C18_backoff_as_called (minB maxB : Int) (fails : Nat) (h0 : 0 < minB) (h1 : minB ≤ maxB)
    (hmax : maxB < 2 ^ 62) (hf : fails < Pool.Gen.C18Sem.reconnectRetriesArg)
    (hf' : fails < Pool.Gen.C18Sem.firstConnectRetries) :
    (∃ r, reconnect minB maxB fails = some r ∧ r.ok = true ∧
      r.waits = (List.range (fails + 1)).map (fun i => min (minB * 2 ^ i) maxB)) ∧
    (∃ r, firstConnect minB maxB fails = some r ∧ r.ok = true ∧
      r.waits = (List.range fails).map (fun i => min (minB * 2 ^ i) maxB)) := by
  constructor
  · refine ⟨_, rfl, ?_⟩
    have := C18_backoff_shape minB minB maxB Pool.Gen.C18Sem.reconnectRetriesArg fails h0 h1 hmax hf
    simp only [this, and_self]
  · refine ⟨_, rfl, ?_⟩
    have := C18_backoff_shape_first minB maxB Pool.Gen.C18Sem.firstConnectRetries fails h0 h1 hmax hf'
    exact ⟨this.2, this.1⟩

example : reconnect 1000 8000 5 = some ⟨[1000, 2000, 4000, 8000, 8000, 8000], [2000, 4000, 8000, 8000, 8000], true⟩ := by
  decide

/-- **The source does what the model mirrors – semantic essentials**, regenerated on every run in a form that
behaviour-preserving refactorings leave unchanged.  Each fact is described where it is generated
(`Generated/C18Sem.lean`, `C18Facts.lean`); what of the model rests on it:

* hashing: the three auth functions hash their two parameters in order with SHA-256 (`concatAndHash`);
* backoff: the update after a failed attempt (`nextBackoff`), a wait iff `b ≠ 0`, the roles of the two parameters
  (`connLoop`/`connect`), `(0, 32767)` on a first connect and `(MIN, 32767)` on a reconnect (`firstConnect`/`reconnect`);
* switch: a received error is sent exactly once – to `tempChan` iff `diverted` – with the flag read and the send made
  under the mutex (`Switch.step`: recv / lock / deliver); `Divert`/`Restore` set both fields under the mutex;
* reconnect body (whatever function holds it): order of the calls, the map emptied before re-subscribing, every error
  return after that keeps the accounts (`reconnectOnce`, `resubLoop`, `keepAccts`); `HandleServerShutdown` starts over
  while dirty, the reader only marks a running reconnect dirty (`handleShutdown`);
* `connectAndAuthenticate`: Divert < map insertion < authenticate, never deletes, re-connects inline at the three
  places the diverted `ErrServerErrored` can surface (`connectAndAuth`);
* `authenticate`: what is hashed, signed and sent, in which order (`authCommit`/`authSubscribe`);
* `serverHandler`: which errors it reconnects for and while what it retries (`handlerLoop`). -/
theorem C18_source_essentials :
    Pool.Gen.C18.hashOrderCommitAccount = [0, 1] ∧ Pool.Gen.C18.hashOrderAuthChallenge = [0, 1] ∧
    Pool.Gen.C18.hashOrderAuthHash = [0, 1] ∧ Pool.Gen.C18.concatAndHashWrites = ["0", "1"] ∧
    Pool.Gen.C18.concatAndHashIsSha256 = true ∧
    Pool.Gen.C18Sem.backoffUpdate =
      "ite((MAX < ite(((2 * b) == 0), MIN, (2 * b))), MAX, ite(((2 * b) == 0), MIN, (2 * b)))" ∧
    Pool.Gen.C18Sem.waitGuard = "(0 != b)" ∧ Pool.Gen.C18Sem.backoffInitParam = 0 ∧
    Pool.Gen.C18Sem.retryBoundParam = 1 ∧
    Pool.Gen.C18Sem.firstConnectInit = "0" ∧ Pool.Gen.C18Sem.reconnectInit = "MIN" ∧
    Pool.Gen.C18Sem.firstConnectRetries = Pool.Gen.C18.reconnectRetries ∧
    Pool.Gen.C18Sem.reconnectRetriesArg = Pool.Gen.C18.reconnectRetries ∧
    Pool.Gen.C18Sem.switchRouting = ["!s.diverted -> s.mainChan", "s.diverted -> s.tempChan"] ∧
    Pool.Gen.C18Sem.switchSendsUnderMutex = true ∧ Pool.Gen.C18Sem.switchDivertedReadUnderMutex = true ∧
    Pool.Gen.C18Sem.switchSendsHonourQuit = true ∧ Pool.Gen.C18Sem.switchRecvHonoursQuit = true ∧
    Pool.Gen.C18Sem.switchForwardsReceived = true ∧
    Pool.Gen.C18Sem.divertLocked = true ∧ Pool.Gen.C18Sem.divertSets = ["s.diverted = true", "s.tempChan = <arg>"] ∧
    Pool.Gen.C18Sem.restoreLocked = true ∧ Pool.Gen.C18Sem.restoreSets = ["s.diverted = false", "s.tempChan = nil"] ∧
    Pool.Gen.C18Sem.reconnectOrder = true ∧ Pool.Gen.C18Sem.reconnectEmptiesMapFirst = true ∧
    Pool.Gen.C18Sem.reconnectKeepsOnFailure = true ∧ Pool.Gen.C18Sem.batchFailureKeeps = true ∧
    Pool.Gen.C18Sem.shutdownStartsOverWhileDirty = true ∧
    Pool.Gen.C18Sem.noticeOnlyMarksWhileReconnecting = true ∧ Pool.Gen.C18Sem.noticeElseHandles = true ∧
    Pool.Gen.C18Sem.subscribeOrder = true ∧ Pool.Gen.C18Sem.inlineReconnects = 3 ∧
    Pool.Gen.C18Sem.subscribeNeverDeletes = true ∧
    Pool.Gen.C18Sem.authenticateCalls =
      ["account.CommitAccount", "s.sendMsg", "account.AuthHash", "s.signer.SignMessage", "s.sendMsg"] ∧
    Pool.Gen.C18Sem.commitStoredInSubscription = true ∧ Pool.Gen.C18Sem.authHashOfCommitAndChallenge = true ∧
    Pool.Gen.C18Sem.signsAuthHashWithAccountKey = true ∧
    Pool.Gen.C18Sem.handlerGuard = ["auctioneer.ErrServerShutdown != e", "e != nil"] ∧
    Pool.Gen.C18Sem.handlerRetryWhile = ["auctioneer.ErrClientShutdown != e", "e != nil"] ∧
    Pool.Gen.C18Sem.handlerRetryFeedsBack = true := by and_intros <;> rfl

/-- **The auth functions share no mutable state** (regenerated call-graph fact): `CommitAccount`, `AuthChallenge`,
`AuthHash` and everything they call inside package account reference no package-level variable, so handshakes that
hash at the same time cannot disturb each other – each digest is the pure function of `C18_handshake_verifiable`. -/
theorem C18_auth_stateless : Pool.Gen.C18.authPkgVarRefs = [] := rfl

/-- the source contains the four repairs: the driver's model variant (read from the regenerated shapes) is the one
the theorems below are about -/
theorem C18_source_is_repaired : variantOfSource = Variant.fixed := by decide +kernel

/-- outside the guard the doubling can wrap: with `max ≥ 2^62` a backoff of `2^62` ns doubles to `-2^63`, which is
"waited" as zero time – the guard of `C18_backoff_shape` is needed -/
theorem C18_backoff_guard_needed :
    (connect (2 ^ 62) 1 (2 ^ 63 - 1) 3 1).backoffs = [-(2 ^ 63)] := by decide

/-- **Switch: nothing lost, nothing duplicated, routed by the divert state at processing time.**  For every schedule
of the atomic steps (sends by any number of goroutines, `run`'s receive / lock / hand-over, `Divert`, `Restore`, in
any interleaving; disabled steps are skipped) started from a fresh switch: the errors sent are, as a multiset, those
still inside the switch plus those handed to a target (once nothing is inside, exactly the delivered ones), and every
error handed over went to a temporary channel iff `diverted` was set when `run` took the mutex for it. -/
theorem C18_switch_no_loss (as : List Act) :
    let s := ({} : Switch).run as
    List.Perm (sentOf as) (s.inside ++ s.delivered.map (·.1)) ∧
    (∀ x ∈ s.delivered, (∃ c, x.2.1 = Target.temp c) ↔ x.2.2 = true) ∧
    (s.inside = [] → List.Perm (sentOf as) (s.delivered.map (·.1))) := by
  intro s
  have hp : List.Perm (sentOf as) (s.inside ++ s.delivered.map (·.1)) :=
    Switch.run_induction (I := fun s l => List.Perm l (s.inside ++ s.delivered.map (·.1))) step_conserves as
      (s := {}) (l := []) (List.Perm.refl _)
  have hr : SwInv s :=
    Switch.run_induction (I := fun s _ => SwInv s) swInv_step as (s := {}) (l := []) ⟨nofun, nofun, nofun⟩
  refine ⟨hp, hr.delivered, ?_⟩
  intro he
  simpa [he] using hp

/-- the switch itself never blocks an error: whenever something is inside, one of `run`'s own steps is enabled (the
only thing it ever waits for is the reader of the chosen target channel, modelled by `deliver`) -/
theorem C18_switch_progress (s : Switch) (h : s.inside ≠ []) :
    (s.step (.recv 0)).isSome ∨ (s.step .lock).isSome ∨ (s.step .deliver).isSome := by
  cases hi : s.inflight with
  | some x => right; right; simp [Switch.step, hi]
  | none =>
    cases hh : s.held with
    | some e => right; left; simp [Switch.step, hi, hh]
    | none =>
      left
      cases hp : s.pending with
      | nil => simp [Switch.inside, hi, hh, hp] at h
      | cons a l => simp [Switch.step, hi, hh, hp]

example : (({} : Switch).run [.send 1, .divert 7, .recv 0, .lock, .restore, .send 2, .deliver, .restore, .recv 0,
    .lock, .deliver]).delivered = [(1, .temp 7, true), (2, .main, false)] := by decide

theorem healthy_of_live {c : Client} (h : Live c) : Healthy c :=
  ⟨h.nodup, h.chaos, Or.inr ⟨h.isOpen, h.alive, h.perm, h.succ⟩⟩

/-- The property's re-subscription clause over the model of variant `v`: from a healthy state with an open stream, a
transport error or a shutdown notice while idle, any number `k` of refused reconnects, any numbers `fo` / `fb` of
reconnect attempts that fail after a successful `Terms` probe (the stream open / the pending-batch check fails), any
map iteration order `pick`, and any faults of `FaultsOnly` – transport errors (before the challenge, between challenge
and subscribe, after the subscribe) and shutdown notices (before / after the challenge) – hitting the handshakes of
the re-subscription and of the reconnects these cause in turn: afterwards the newest stream is alive and carries every
previously subscribed account exactly once, acknowledged, and the state is healthy again. -/
def C18_resubscribed_statement (v : Variant) : Prop :=
  ∀ (pick : List Nat → List Nat), (∀ l, List.Perm (pick l) l) →
  ∀ (c : Client), Healthy c → c.isOpen = true → ∀ (op : Op), (op = .errIdle ∨ op = .shutIdle) →
  ∀ (k fo fb : Nat) (beh : List Beh), FaultsOnly beh →
    let c' := ((c.script k beh fo fb).step v pick op).1
    Healthy c' ∧ c'.cur.alive = true ∧ List.Perm c'.cur.subs c.accts ∧ c'.cur.success = c'.cur.subs ∧
      List.Perm c'.accts c.accts ∧ c.streams.length < c'.streams.length

/-- **Re-subscribed exactly once – full strength, for the repaired code.**  No hypothesis about where the faults
fall: a transport error that hits a handshake is absorbed by an inline reconnect that re-subscribes the whole map; a
shutdown notice that hits a re-subscription makes the running reconnect start over with the whole map kept; a
reconnect attempt that fails at the stream open or the pending-batch check keeps the whole map and is retried by the
main handler. -/
theorem C18_resubscribed_once : C18_resubscribed_statement Variant.fixed := by
  intro pick hpick c hH hopen op hop k fo fb beh ht c'
  have hl : Live (c.script k beh fo fb) := hH.script.live hopen ht
  have hs := hl.toSane
  -- every nested reconnect and every retry consumes a behaviour or a failure of the script
  have hre := handleShutdown_step_spec hpick (beh.length + fo + fb)
  suffices h : Recovered (c.script k beh fo fb) c' from
    ⟨healthy_of_live h.live, h.live.alive, h.live.perm.trans h.perm, h.live.succ, h.perm, h.str⟩
  have hlen : beh.length < beh.length + fo + fb + 1 := by omega
  have hfu : fo + fb ≤ beh.length + fo + fb := by omega
  rcases hop with rfl | rfl
  · -- transport error while idle: reader → switch (not diverted) → main handler → HandleServerShutdown(err), retried
    have b := (c.script k beh fo fb).setCur_book fun s => { s with alive := false }
    have r := mainHandler_spec hre (fuel := beh.length + fo + fb) (hs.book b) (b.beh ▸ hlen) (b.fo ▸ b.fb ▸ hfu)
      .serverErrored
    simp only [c', Client.step, hl.isOpen, hl.alive, Bool.and_self, if_true]
    exact ⟨r.live, b.accts ▸ r.perm, b.str ▸ r.str⟩
  · -- shutdown notice while idle: the reader goroutine runs HandleServerShutdown(nil) itself; a failed attempt is
    -- forwarded to the main handler, which retries
    simp only [c', Client.step, hl.isOpen, hl.alive, Bool.and_self, if_true]
    exact readerShutdown_spec hre hs hlen hfu

def witness3 : Client :=
  { accts := [0, 1, 2], isOpen := true, streams := [{ subs := [0, 1, 2], success := [0, 1, 2] }], attempts := 1 }

theorem witness3_healthy : Healthy witness3 :=
  ⟨by decide, rfl, Or.inr ⟨rfl, rfl, List.Perm.refl _, rfl⟩⟩

-- non-vacuity: shutdown notice, 3 refused reconnects, the 2nd re-subscription fails before its challenge, the first
-- handshake of the nested reconnect fails between challenge and subscribe; map iterated in reverse
example : FaultsOnly [.ok, .errBC, .errMid] ∧
    (((witness3.script 3 [.ok, .errBC, .errMid]).step Variant.fixed List.reverse .shutIdle).1.cur.subs = [1, 2, 0]) ∧
    ((witness3.script 3 [.ok, .errBC, .errMid]).step Variant.fixed List.reverse .shutIdle).1.attempts = 7 ∧
    ((witness3.script 3 [.ok, .errBC, .errMid]).step Variant.fixed List.reverse .shutIdle).1.streams.length = 4 :=
  ⟨by decide, by decide +kernel, by decide +kernel, by decide +kernel⟩

-- non-vacuity with failing reconnect attempts: shutdown notice; the first attempt's stream open fails, the second one's
-- pending-batch check fails, the third one's first handshake is hit by a transport error (absorbed inline)
example : (((witness3.script 2 [.errAC] 1 1).step Variant.fixed id .shutIdle).1.cur.subs = [0, 1, 2]) ∧
    ((witness3.script 2 [.errAC] 1 1).step Variant.fixed id .shutIdle).1.mainErrs = [.other] ∧
    ((witness3.script 2 [.errAC] 1 1).step Variant.fixed id .shutIdle).1.handlerRes = [.other, .none_] := by
  decide +kernel

/-- **Subscribing is resilient too (repaired code).**  A first or further `StartAccountSubscription`, with any faults
of `FaultsOnly` hitting its own handshake or the re-subscriptions of the reconnects they cause (no failing stream open
or pending-batch check: nobody retries an inline reconnect that fails there), leaves a healthy state with the account
in the map exactly once and subscribed on the newest stream – also when it returns an error (`HsRes.errShutdown`, a
shutdown notice hitting its own handshake): the reconnect run by the stream's reader subscribes the account. -/
theorem C18_subscribe_resilient (pick : List Nat → List Nat) (hpick : ∀ l, List.Perm (pick l) l)
    (c : Client) (hH : Healthy c) (a k : Nat) (beh : List Beh) (ht : FaultsOnly beh) :
    let r := (c.script k beh).step Variant.fixed pick (.sub a)
    (r.2 = .ok ∨ r.2 = .err) ∧
      Healthy r.1 ∧ List.Perm r.1.accts (addAcct c.accts a) := by
  intro r
  have o := hsLevel_healthy hpick beh.length a (c := c.script k beh) hH.script ht rfl rfl (Nat.le_refl _)
  rcases h : hsLevel .fixed pick beh.length (c.script k beh) a with ⟨c₁, res⟩
  rw [h] at o
  simp only [r, Client.step, show (c.script k beh).beh = beh from rfl, show (c.script k beh).failOpen = 0 from rfl,
    show (c.script k beh).failBatch = 0 from rfl, Nat.add_zero, h]
  rcases o.res with ⟨rfl, hl₁⟩ | ⟨rfl, hlt⟩ | ⟨-, hlt⟩
  · exact ⟨.inl rfl, healthy_of_live hl₁, o.perm⟩
  · -- the notice hit this very handshake: the stream's reader runs HandleServerShutdown(nil)
    have r' := readerShutdown_spec (handleShutdown_step_spec hpick beh.length) (fuel := beh.length) o.sane
      (Nat.lt_succ_of_le o.later.beh) (Nat.le_trans o.later.fails (Nat.zero_le _))
    exact ⟨.inr rfl, healthy_of_live r'.live, r'.perm.trans o.perm⟩
  · -- no failing open / batch check is scripted
    exact absurd hlt (Nat.not_lt_zero _)

/-- **The clause is false for the unrepaired code** (`Variant.orig`, finding `resubscribe-abort-drops-accounts`):
three accounts, shutdown notice, the second re-subscription is hit by a transport error before the challenge – the
loop returns, the error reaches the main handler, which reconnects and re-subscribes only the two accounts still in
the map; account 2 is never subscribed again.  Replayed on the real client by corpus/C18/defects.json. -/
theorem C18_resubscribed_orig_false : ¬ C18_resubscribed_statement Variant.orig := by
  intro h
  have := h id (fun _ => List.Perm.refl _) witness3 witness3_healthy rfl .shutIdle (Or.inr rfl) 1 0 0 [.ok, .errBC]
    (by decide)
  have e : ((witness3.script 1 [.ok, .errBC]).step Variant.orig id .shutIdle).1.cur.subs = [0, 1] := by decide +kernel
  have h3 : List.Perm ((witness3.script 1 [.ok, .errBC]).step Variant.orig id .shutIdle).1.cur.subs witness3.accts :=
    this.2.2.1
  rw [e] at h3
  exact absurd h3.length_eq (by decide)

-- non-vacuity with shutdown notices inside the re-subscription: the first re-subscription gets a notice instead of
-- its final answer, the reconnect starts over, whose second handshake gets one instead of the challenge
example : FaultsOnly [.shutAC, .ok, .shutBC] ∧
    (((witness3.script 0 [.shutAC, .ok, .shutBC]).step Variant.fixed id .errIdle).1.cur.subs = [0, 1, 2]) ∧
    ((witness3.script 0 [.shutAC, .ok, .shutBC]).step Variant.fixed id .errIdle).1.streams.length = 4 ∧
    ((witness3.script 0 [.shutAC, .ok, .shutBC]).step Variant.fixed id .errIdle).1.handlerRes = [.none_] :=
  ⟨by decide, by decide +kernel, by decide +kernel, by decide +kernel⟩

-- a failing pending-batch check during the reconnect (b7e2cef): every account is kept for the next attempt, which the
-- main handler makes (the double close that commit removes is not expressible in the model)
example :
    ((witness3.script 1 [] 0 1).step Variant.fixed id .errIdle).1.cur.success = [0, 1, 2] ∧
    ((witness3.script 1 [] 0 1).step Variant.fixed id .errIdle).1.handlerRes = [.other, .none_] ∧
    ((witness3.script 1 [] 0 1).step Variant.fixed id .errIdle).1.streams.length = 3 ∧
    ((witness3.script 0 [] 1 2).step Variant.fixed id .shutIdle).1.cur.success = [0, 1, 2] ∧
    ((witness3.script 0 [] 1 2).step Variant.fixed id .shutIdle).1.mainErrs = [.other] := by decide +kernel

-- a shutdown notice right behind an account's success while the reconnect is still re-subscribing (`okShut`): the
-- reader closes the new stream and marks the reconnect dirty; at the last account the reconnect simply starts over,
-- at an earlier one the remaining accounts first set up another stream; either way everything ends subscribed once.
-- A reconnect that stopped as soon as an attempt returned nil would leave the closed stream (first component).
example :
    ((witness3.script 0 [.ok, .ok, .okShut]).reconnectOnce Variant.fixed id (hsLevel Variant.fixed id 3)).1.isOpen = false ∧
    ((witness3.script 0 [.ok, .ok, .okShut]).step Variant.fixed id .errIdle).1.cur.success = [0, 1, 2] ∧
    ((witness3.script 0 [.ok, .ok, .okShut]).step Variant.fixed id .errIdle).1.streams.length = 3 ∧
    ((witness3.script 0 [.okShut, .ok, .ok]).step Variant.fixed id .shutIdle).1.cur.success = [0, 1, 2] ∧
    ((witness3.script 0 [.okShut, .ok, .ok]).step Variant.fixed id .shutIdle).1.streams.length = 4 := by
  decide +kernel

/-- each of the four repairs is needed (model computations; `reject` = the auctioneer answers one subscription with
an error, which makes `HandleServerShutdown` fail without a transport error):
without the inline reconnect a transport error in a direct handshake leaves a dead stream; without keeping the
accounts a failed re-subscription loses account 2 for good; without the handler retry the client stays with one
account subscribed (with all repairs the same run ends with all three); without serialising the reconnects a shutdown
notice during a re-subscription leaves the modelled fragment (`chaos`). -/
theorem C18_each_repair_needed :
    ((witness3.script 0 [.errBC]).step ⟨true, false, true, true⟩ id (.sub 3)).1.cur.alive = false ∧
    ((witness3.script 0 [.ok, .reject]).step ⟨false, true, true, true⟩ id .errIdle).1.accts = [0, 1] ∧
    ((witness3.script 0 [.ok, .reject]).step ⟨true, true, false, true⟩ id .errIdle).1.cur.success = [0] ∧
    ((witness3.script 0 [.ok, .reject]).step Variant.fixed id .errIdle).1.cur.success = [0, 1, 2] ∧
    ((witness3.script 0 [.ok, .shutBC]).step ⟨true, true, true, false⟩ id .errIdle).1.chaos = true := by decide +kernel

end Pool.C18
