import PoolProofs.C17Lemmas
import PoolProofs.C17LemmasFunding
import PoolModel.Generated.C17State

/-! C17: maker and taker derive the same channel; the taker admits only that channel.  `admitted req resp` = lnd lets
the funding flow continue = `resp.accept ∧ (req.wantsZeroConf → resp.zeroConf)`: lnd fails a zero-conf open that the
acceptor did not mark (assumption about lnd recorded in props/C17.json). -/
namespace Pool.C17

/-- **Registered pending id: admitted ⇔ push amount, commitment type, announcement flag and zero-conf flag are
exactly what the registered bid demands.** -/
theorem C17_acceptor_iff (m : Expected) (req : AccReq) (bid : ExpBid) (h : lookup m req.pid = some bid) :
    admitted req (acceptChannel m req) = true ↔ Demanded bid req := by
  obtain ⟨hacc, hzc⟩ := acceptChannel_registered m req bid h
  unfold admitted Demanded
  rw [Bool.and_eq_true, Bool.or_eq_true, Bool.not_eq_true', hzc, hacc, Accepts]
  cases req.wantsZeroConf <;> cases bid.zeroConf <;> simp

/-- the acceptor's own verdict, before lnd's zero-conf rule.  A zero-conf open for a bid that did not ask for it
is *accepted without the zero-conf mark*, which makes lnd fail the flow – hence `admitted` in `C17_acceptor_iff`.
(`↔` binds weaker than `∧`: as written the second equivalence is part of the first one's right-hand side;
`acceptChannel_registered` has the two equivalences side by side.) -/
theorem C17_acceptor_accept_iff (m : Expected) (req : AccReq) (bid : ExpBid) (h : lookup m req.pid = some bid) :
    (acceptChannel m req).accept = true ↔
      (Int.ofNat (toU64 req.pushAmt / 1000) = bid.selfChanBalance ∧
       CommitTypeOK bid.channelType req.commitType ∧
       (req.channelFlags % 2 = 1 ↔ bid.unannounced = false) ∧
       (bid.zeroConf = true → req.wantsZeroConf = true)) ∧
    ((acceptChannel m req).zeroConf = true ↔ ((acceptChannel m req).accept = true ∧ bid.zeroConf = true)) :=
  have ⟨hacc, hzc⟩ := acceptChannel_registered m req bid h
  ⟨fun ha => ⟨hacc.mp ha, hzc⟩, fun hc => hacc.mpr hc.1⟩

/-- **A pending id the acceptor did not register is always accepted, with the neutral response** (no zero-conf
mark, no error): exactly what lnd does without pool's acceptor. -/
theorem C17_unregistered_admitted (m : Expected) (req : AccReq) (h : lookup m req.pid = none) :
    acceptChannel m req = { accept := true } ∧ (acceptChannel m req).accept = true := by
  unfold acceptChannel
  rw [h]
  exact ⟨rfl, rfl⟩

/-- **Bookkeeping:** after any history the acceptor's expectation for a pending id is the latest registration of
that id that no later `ShimRemoved` (by bid nonce) cancelled. -/
theorem C17_registry_spec (ops : List RegOp) (pid : Bytes) :
    lookup (regRun ops) pid = lastReg ops.reverse pid := by
  simpa [regRun] using lookup_foldl ops [] [] List.nodup_nil (fun _ => rfl) pid

/-! Setting of the funding theorems: the ask `a` and the bid `b` as their owners hold them; `ka`/`kb` the multisig
keys they were submitted with (each owner's wallet re-derives its key from the stored locator: `hka`, `hkb`); `ma`/`mb`
what the counterparty receives (`projAsk`/`projBid` = `Client.SubmitOrder` ∘ `ParseRPCServerAsk/Bid`, success implies
known channel types, non-zero nonces, valid keys); one batch transaction and height hint for both; SHA-256 and lnd's
funding-script builders are the same functions on both machines (`hH`, `hFS`); the builders sort the two keys, i.e.
are symmetric (`hsym` – checked on every harness case with direct calls to lnd). -/

/-- **Every compatible ask/bid pair, every batch transaction:** if the funding script can be built, the asker sends
exactly one `OpenChannelRequest`, the bidder registers exactly one shim + acceptor expectation, and they agree on
pending channel id, funding outpoint (the first output carrying the funding script), capacity, mirrored keys, thaw
height, commitment type / musig2 flag; push amount = the bid's self channel balance; private and zero-conf flags =
the bid's. -/
theorem C17_shims_agree
    (envA envB : Env) (a : Kit) (b : Bid) (ka kb na nb nodeB : Bytes) (u : Nat) (tx : BatchTx) (hint : Nat)
    (ma mb : MatchedOrder) (script : Bytes)
    (hH : envB.H = envA.H) (hFS : envB.fundScript = envA.fundScript)
    (hsym : ∀ t x y, envA.fundScript t x y = envA.fundScript t y x)
    (hns : b.sidecar = none)
    (hka : envA.deriveKey a.keyFamily a.keyIndex = some ka)
    (hkb : envB.deriveKey b.kit.keyFamily b.kit.keyIndex = some kb)
    (hpa : projAsk envB a ka na u = .ok ma)
    (hpb : projBid envA b kb nb u = .ok mb)
    (hscript : envA.fundScript (commitSpec a.channelType b.kit.channelType == 5) ka kb = some script) :
    ∃ req sT pidT eT,
      batchChannelSetup envA (.ask a) mb tx hint = .ok (some req) ∧
      prepRegisters envB nodeB (.bid b) ma tx hint = .ok (some (sT, pidT, eT)) ∧
      ShimsAgree envA.H a b ka kb nb u tx hint script req sT pidT eT :=
  shims_agree_wire tx hint hFS hsym hka (ourMultiSigKey_plain hns hkb) (.of_plain hns) rfl hpa hpb hscript hH

/-- … and when the funding script cannot be built (lnd's builder refuses the keys or the amount) neither side sends
or registers anything: both derivations fail with an error. -/
theorem C17_shims_agree_err
    (envA envB : Env) (a : Kit) (b : Bid) (ka kb na nb nodeB : Bytes) (u : Nat) (tx : BatchTx) (hint : Nat)
    (ma mb : MatchedOrder)
    (hFS : envB.fundScript = envA.fundScript)
    (hsym : ∀ t x y, envA.fundScript t x y = envA.fundScript t y x)
    (hns : b.sidecar = none)
    (hka : envA.deriveKey a.keyFamily a.keyIndex = some ka)
    (hkb : envB.deriveKey b.kit.keyFamily b.kit.keyIndex = some kb)
    (hpa : projAsk envB a ka na u = .ok ma)
    (hpb : projBid envA b kb nb u = .ok mb)
    (hscript : envA.fundScript (commitSpec a.channelType b.kit.channelType == 5) ka kb = none) :
    batchChannelSetup envA (.ask a) mb tx hint = .err ∧
    prepRegisters envB nodeB (.bid b) ma tx hint = .err :=
  shims_agree_wire tx hint hFS hsym hka (ourMultiSigKey_plain hns hkb) (.of_plain hns) rfl hpa hpb hscript

/-- **One shim + acceptor expectation per matched pair:** if every (our order, matched order) pair of the batch
registers `f pair` on its own (as in `C17_shims_agree` / `C17_sidecar_agree`), `PrepChannelFunding` over the whole
batch succeeds and registers exactly `f pair₁, f pair₂, …` – none twice, none missing; a second match with an already
connected node is registered like the first (only the connection attempt is de-duplicated). -/
theorem C17_prep_batch_regs (env : Env) (node : Bytes) (tx : BatchTx) (hint : Nat)
    (batch : List (Order × List MatchedOrder)) (f : Order × MatchedOrder → Shim × Bytes × ExpBid)
    (hall : ∀ p, p ∈ flatPairs batch → prepRegisters env node p.1 p.2 tx hint = .ok (some (f p))) :
    ∃ out, prepBatch env node batch tx hint = .ok out ∧ out.regs = (flatPairs batch).map f := by
  obtain ⟨out, h1, h2⟩ := resFoldl_collect (fun st p => prepMatch env node p.1 tx hint st p.2) PrepOut.regs f
    (flatPairs batch) (fun s p hp => ⟨_, by rw [prepMatch, hall p hp]; rfl, rfl⟩) {}
  unfold prepBatch prepOrder
  rw [resFoldl_flatPairs (fun o => prepMatch env node o tx hint)]
  exact ⟨out, h1, h2.trans (List.nil_append _)⟩

/-- **One open request per matched pair** of the asker's batch. -/
theorem C17_setup_batch_reqs (env : Env) (tx : BatchTx) (hint : Nat)
    (batch : List (Order × List MatchedOrder)) (f : Order × MatchedOrder → OpenReq)
    (hall : ∀ p, p ∈ flatPairs batch → batchChannelSetup env p.1 p.2 tx hint = .ok (some (f p))) :
    setupBatch env batch tx hint = .ok ((flatPairs batch).map f) := by
  obtain ⟨reqs, h1, h2⟩ := resFoldl_collect (fun st p => setupMatch env p.1 tx hint st p.2) (fun reqs => reqs) f
    (flatPairs batch) (fun s p hp => ⟨_, by rw [setupMatch, hall p hp]; rfl, rfl⟩) []
  unfold setupBatch
  rw [resFoldl_flatPairs (fun o => setupMatch env o tx hint), h1, h2, List.nil_append]

/-- **Re-proposed batches:** whenever `PrepChannelFunding` succeeds against an lnd that already holds the shims
`lnd0` (left over from earlier proposals whose cancel failed or was skipped), every pair it registered – and told
the acceptor about – is held by lnd with exactly the shim derived from *this* proposal's batch transaction and height
hint, and lnd held nothing for that pending id before.  So the bidder never accepts a proposal while its lnd keeps a
stale shim for one of its pairs (a leftover shim makes the register call, hence the whole preparation, fail). -/
theorem C17_lnd_holds_current (env : Env) (node : Bytes) (batch : List (Order × List MatchedOrder)) (tx : BatchTx)
    (hint : Nat) (lnd0 : LndShims) (st : PrepSt)
    (h : prepBatchLnd env node batch tx hint lnd0 = .ok st) :
    ∀ r, r ∈ st.out.regs → lndLookup st.lnd r.2.1 = some r.1 ∧ lndLookup lnd0 r.2.1 = none := by
  unfold prepBatchLnd at h
  rw [resFoldl_flatPairs (fun o => prepMatchLnd env node o tx hint)] at h
  exact (resFoldl_inv (Held lnd0) (fun s p s' => prepMatchLnd_held env node p.1 tx hint lnd0 s p.2 s')
    ⟨fun _ hr => absurd hr List.not_mem_nil, fun _ _ hq => hq⟩ h).1

/-! Sidecar bids, three parties: the provider holds the bid `b` with ticket `t` and submits it with the *recipient's*
multisig and node key (`order.manager.PrepareOrder`); the asker sees `projBid b kr r.nodeKey`; the recipient's node
turns its copy (in `pending`) of the ticket carrying the bid's nonce into a dummy bid (`getSidecarAsOrder`) and
registers shim + acceptor expectation from it. -/

/-- **Sidecar bid with the default channel type whose parameters are those of the ticket's offer:** the asker's
open request and what the recipient registers agree exactly as in `C17_shims_agree`. -/
theorem C17_sidecar_agree
    (envA envR : Env) (a : Kit) (b : Bid) (t : Ticket) (r : Recipient) (ka kr na nodeR : Bytes) (u : Nat)
    (tx : BatchTx) (hint : Nat) (ma mb : MatchedOrder) (script : Bytes) (pending : List Ticket) (dummy : Order)
    (hH : envR.H = envA.H) (hFS : envR.fundScript = envA.fundScript)
    (hsym : ∀ t x y, envA.fundScript t x y = envA.fundScript t y x)
    (_hs : b.sidecar = some t) (hr : t.recipient = some r) (hkr : r.multiSigKey = some kr)
    (hnode : r.nodeKey = nodeR)
    (hka : envA.deriveKey a.keyFamily a.keyIndex = some ka)
    (hpa : projAsk envR a ka na u = .ok ma)
    (hpb : projBid envA b kr r.nodeKey u = .ok mb)
    (hdef : b.kit.channelType = Gen.C17.chanTypePeerDependent)
    (hcons : OfferConsistent t.offer b)
    (hcopy : ∀ t', t' ∈ pending → t'.orderBidNonce = some b.kit.nonce → t'.offer = t.offer ∧ t'.recipient = t.recipient)
    (hdummy : getSidecarAsOrder pending b.kit.nonce = .ok dummy)
    (hscript : envA.fundScript (commitSpec a.channelType b.kit.channelType == 5) ka kr = some script) :
    ∃ req sT pidT eT,
      batchChannelSetup envA (.ask a) mb tx hint = .ok (some req) ∧
      prepRegisters envR nodeR dummy ma tx hint = .ok (some (sT, pidT, eT)) ∧
      ShimsAgree envA.H a b ka kr r.nodeKey u tx hint script req sT pidT eT := by
  obtain ⟨t', ht', hn', rfl⟩ := getSidecar_ok hdummy
  obtain ⟨hoff, hrec⟩ := hcopy t' ht' hn'
  obtain ⟨hc1, hc2, hc3, hc4⟩ := hcons
  refine shims_agree_wire tx hint hFS hsym hka (fam := keyFamilyMultiSig) (idx := r.multiSigKeyIndex) ?_
    (.of_recipient rfl (hrec.trans hr) hnode) ?_ hpa hpb hscript hH
  · simp only [ourMultiSigKey, hrec, hr, hkr]
  · -- the dummy bid made from the ticket says what the bid says
    simp only [Bid.wire, Kit.wire, hoff, hc1, hc2, hc3, hc4, hdef]
    rfl

/-- the provider of a sidecar channel (its node is not the recipient) neither registers a shim nor opens a
channel for that bid. -/
theorem C17_sidecar_provider_silent (env : Env) (nodeP : Bytes) (b : Bid) (t : Ticket) (r : Recipient)
    (m : MatchedOrder) (tx : BatchTx) (hint : Nat)
    (hs : b.sidecar = some t) (hr : t.recipient = some r) (hnode : r.nodeKey ≠ nodeP) :
    prepRegisters env nodeP (.bid b) m tx hint = .ok none ∧
    batchChannelSetup env (.bid b) m tx hint = .ok none := by
  constructor
  · unfold prepRegisters
    have : (r.nodeKey == nodeP) = false := by simpa using hnode
    simp [hs, hr, this]
  · unfold batchChannelSetup
    simp [hs]

/-- **What the repaired gate guarantees:** a sidecar bid that passes `validateAndSignTicketForOrder` (after the
`fix:` commit) and whose offer names a lease duration is consistent with the offer – the hypothesis of
`C17_sidecar_agree`. -/
theorem C17_gate_consistent (offer : Offer) (b : Bid) (amt : Int) (minUnits : Nat)
    (hg : offerGate offer b amt minUnits = true) (hl : offer.leaseDurationBlocks ≠ 0) :
    OfferConsistent offer b := by
  unfold offerGate at hg
  simp only [Bool.and_eq_true, Bool.or_eq_true, beq_iff_eq] at hg
  obtain ⟨⟨⟨⟨_, hlease⟩, hpush⟩, hun⟩, hzc⟩ := hg
  refine ⟨?_, hpush, hun, hzc⟩
  cases hlease with
  | inl h0 => exact absurd h0 hl
  | inr h => exact h

/-- **The two checks together:** an offer that `Manager.OfferSidecar` agrees to create (the only way to obtain an
offer signed by the provider's account key, which the gate verifies) and a bid that passes the gate against it are
consistent – no side condition left.  This discharges hypothesis `hcons` of `C17_sidecar_agree` for every sidecar
bid that can reach the auctioneer. -/
theorem C17_offer_gate_consistent (offer : Offer) (b : Bid) (amt : Int) (minUnits : Nat)
    (ho : offerSidecarOK offer = true) (hg : offerGate offer b amt minUnits = true) :
    OfferConsistent offer b :=
  C17_gate_consistent offer b amt minUnits hg (offerSidecarOK_lease ho)

/-- **No term of the offer is optional:** "offer says 0 / unset, bid says something" never passes the gate against an
offer `OfferSidecar` made, for any of the compared terms. -/
theorem C17_gate_no_optional_term (offer : Offer) (b : Bid) (amt : Int) (minUnits : Nat)
    (ho : offerSidecarOK offer = true) (hg : offerGate offer b amt minUnits = true) :
    (offer.pushAmt = 0 ↔ b.selfChanBalance = 0) ∧ offer.pushAmt = b.selfChanBalance ∧
    b.kit.leaseDuration ≠ 0 ∧ offer.leaseDurationBlocks = b.kit.leaseDuration ∧
    (offer.unannounced = true ↔ b.unannounced = true) ∧ (offer.zeroConf = true ↔ b.zeroConf = true) := by
  obtain ⟨h1, h2, h3, h4⟩ := C17_offer_gate_consistent offer b amt minUnits ho hg
  exact ⟨by rw [h2], h2, h1 ▸ offerSidecarOK_lease ho, h1, by rw [h3], by rw [h4]⟩

/-- the gate of the pinned tree admitted bids on which maker and recipient derive different channels: here the
unannounced flag (which the CLI does not pre-fill from the ticket).  Replayed on the real code by
`corpus/C17/sidecar-offer-mismatch.json`. -/
theorem C17_pinned_gate_admits_disagreement :
    ∃ (offer : Offer) (b : Bid) (amt : Int) (mu : Nat),
      offerGatePinned offer amt mu = true ∧ offerGate offer b amt mu = false ∧ ¬ OfferConsistent offer b :=
  ⟨{ capacity := 500000, pushAmt := 0, leaseDurationBlocks := 2016, unannounced := true, zeroConf := false },
   { kit := { nonce := [1], leaseDuration := 2016, channelType := 0 }, selfChanBalance := 0, unannounced := false,
     zeroConf := false },
   500000, 5, by decide, by decide, by
     intro h
     exact absurd h.2.2.1 (by decide)⟩

/-- why the second `fix:` commit is needed: the gate alone lets an offer without a lease duration pass with any bid
lease duration, and then the recipient's thaw height (from the offer) differs from the asker's (from the bid);
`offerSidecarOK` refuses exactly these offers. -/
theorem C17_gate_lease_unset_residual :
    ∃ (offer : Offer) (b : Bid) (amt : Int) (mu : Nat),
      offerGate offer b amt mu = true ∧ offerSidecarOK offer = false ∧ ¬ OfferConsistent offer b ∧
      thawSpec 0 0 offer.leaseDurationBlocks 800000 ≠ thawSpec 0 0 b.kit.leaseDuration 800000 :=
  ⟨{ capacity := 500000, pushAmt := 0, leaseDurationBlocks := 0, unannounced := false, zeroConf := false },
   { kit := { nonce := [1], leaseDuration := 2016, channelType := 0 }, selfChanBalance := 0, unannounced := false,
     zeroConf := false },
   500000, 5, by decide, by decide, by
     intro h
     exact absurd h.1 (by decide), by decide⟩

/-- **(R)** the `switch` of `order.DetermineCommitmentType`, as regenerated from the source on this run, computes
for every pair of channel types exactly the model's `determineCommitmentType` (which the theorems above use). -/
theorem C17_det_table (x y : Nat) :
    evalDetCases x y Gen.C17.detCases = some (determineCommitmentType x y) := by
  have e1 : Gen.C17.chanTypeScriptEnforced = 1 := rfl
  have e2 : Gen.C17.chanTypeSimpleTaproot = 2 := rfl
  unfold determineCommitmentType
  rw [e1, e2]
  simp only [Gen.C17.detCases, evalDetCases, evalCond]
  -- by cases on the four tests, not by matching the table's shape against the model's `if`s: the table is
  -- regenerated, and swapped operands or reshaped cases in the source must not break the proof
  by_cases hx1 : x = 1 <;> by_cases hy1 : y = 1 <;> by_cases hx2 : x = 2 <;> by_cases hy2 : y = 2 <;>
    simp [hx1, hy1, hx2, hy2, rpcCommitScriptEnforcedLease, rpcCommitSimpleTaproot, rpcCommitUnknown]

/-- **(R)** the derivation is a function of its arguments: no function in the intra-package call graphs of
`order.PendingChanKey`, `funding.Manager.deriveFundingShim` and the others of `Gen.C17.derivationCallGraph` references
a package-level variable other than the logger – so the model's pure functions also describe calls made concurrently
from the daemon's batch handler and sidecar acceptor goroutines (exercised by the `conc` cases of the harness). -/
theorem C17_derivation_stateless :
    Gen.C17.derivationPkgVarRefs.filter (fun r => r.2 != "log") = [] ∧
    "order/PendingChanKey" ∈ Gen.C17.derivationCallGraph ∧
    "funding/Manager.deriveFundingShim" ∈ Gen.C17.derivationCallGraph := by
  refine ⟨rfl, ?_, ?_⟩ <;> simp only [Gen.C17.derivationCallGraph, List.mem_cons, true_or, or_true]

/-- **(R)** field mapping of the `lnrpc.OpenChannelRequest` literal in `BatchChannelSetup` and of the
`lnrpc.ChanPointShim` / `lnrpc.ChannelPoint` literals in `deriveFundingShim`, regenerated from the source: the fields
the model's `batchChannelSetup` / `deriveFundingShim` fill, from the same expressions (locals defined once by a
selector / type assertion are replaced by their definition, a helper's parameters by the call's arguments; for computed
locals – funding amount, shim, commitment type – only the FIELD is named, the correspondence run ties their values). -/
theorem C17_literal_fields :
    Gen.C17.openChannelRequestFields.map Prod.fst =
      ["CommitmentType", "FundingShim", "LocalFundingAmount", "NodePubkey", "Private", "PushSat", "ZeroConf"] ∧
    Gen.C17.openChannelRequestFields.filter
        (fun f => f.1 == "NodePubkey" || f.1 == "Private" || f.1 == "PushSat" || f.1 == "ZeroConf") =
      [("NodePubkey", "matchedOrder.NodeKey[:]"), ("Private", "matchedOrder.Order.(*order.Bid).UnannouncedChannel"),
       ("PushSat", "int64(matchedOrder.Order.(*order.Bid).SelfChanBalance)"),
       ("ZeroConf", "matchedOrder.Order.(*order.Bid).ZeroConfChannel")] ∧
    Gen.C17.chanPointShimFields.map Prod.fst =
      ["Amt", "ChanPoint", "LocalKey", "Musig2", "PendingChanId", "RemoteKey", "ThawHeight"] ∧
    Gen.C17.chanPointShimFields.filter (fun f => f.1 == "RemoteKey") = [("RemoteKey", "matchedOrder.MultiSigKey[:]")] ∧
    Gen.C17.channelPointFields.map Prod.fst = ["FundingTxid", "OutputIndex"] :=
  ⟨rfl, rfl, rfl, rfl, rfl⟩

/-- **(R)** what travels between the two sides: the bid fields `SubmitOrder` sends, `ParseRPCServerBid` reads
back, and `getSidecarAsOrder` takes from the ticket's offer instead. -/
theorem C17_projection_fields :
    Gen.C17.submitServerBidFields.filter
        (fun f => f.1 == "SelfChanBalance" || f.1 == "UnannouncedChannel" || f.1 == "ZeroConfChannel" ||
                  f.1 == "LeaseDurationBlocks") =
      [("LeaseDurationBlocks", "o.(type).LeaseDuration"), ("SelfChanBalance", "uint64(o.(type).SelfChanBalance)"),
       ("UnannouncedChannel", "o.(type).UnannouncedChannel"), ("ZeroConfChannel", "o.(type).ZeroConfChannel")] ∧
    Gen.C17.parseServerBidFields.filter (fun f => f.1 != "Kit") =
      [("SelfChanBalance", "btcutil.Amount(details.SelfChanBalance)"),
       ("UnannouncedChannel", "details.UnannouncedChannel"), ("ZeroConfChannel", "details.ZeroConfChannel")] ∧
    Gen.C17.sidecarAsOrderFields.filter (fun f => f.1 != "Kit") =
      [("SelfChanBalance", "ticket.Offer.PushAmt"), ("SidecarTicket", "ticket"),
       ("UnannouncedChannel", "ticket.Offer.UnannouncedChannel"), ("ZeroConfChannel", "ticket.Offer.ZeroConfChannel")] ∧
    Gen.C17.baseSupplyUnit = 100000 :=
  ⟨rfl, rfl, rfl, rfl⟩

/-- inside the domain of real orders (matched units < 2^32, 0 ≤ self balance ≤ 21·10^14 sat) the capacity of
`ShimsAgree` is the plain sum "matched units · base unit + self channel balance". -/
theorem C17_capacity_exact (u : Nat) (sb : Int) (hu : u < 2 ^ 32) (h0 : 0 ≤ sb) (h1 : sb ≤ 2100000000000000) :
    wrapI64 (toSatoshis u + sb) = (u : Int) * 100000 + sb := by
  have hs : toSatoshis u = (u : Int) * 100000 :=
    toSatoshis_of_lt u (by simp only [Gen.C17.baseSupplyUnit]; omega)
  rw [hs]
  exact wrapI64_of_range _ (by omega) (by omega)

def exBid : ExpBid := { nonce := [1], selfChanBalance := 250000, channelType := 1, unannounced := true, zeroConf := true }
def exReq : AccReq := { pid := [7], pushAmt := 250000999, commitType := some 3, channelFlags := 0, wantsZeroConf := true }

example : lookup (regRun [.reg [7] exBid]) exReq.pid = some exBid := by decide
example : Demanded exBid exReq := by
  refine ⟨by decide, Or.inr (Or.inl ⟨rfl, rfl⟩), by decide, rfl⟩
example : admitted exReq (acceptChannel (regRun [.reg [7] exBid]) exReq) = true := by decide
-- one field off (announced although the bid is unannounced): rejected
example : admitted { exReq with channelFlags := 1 } (acceptChannel (regRun [.reg [7] exBid]) { exReq with channelFlags := 1 }) = false := by
  decide
-- removed again by the bid's nonce
example : lookup (regRun [.reg [7] exBid, .rm [1]]) [7] = none := by decide

/-! non-vacuity of the funding theorems: one environment (constant funding scripts per type, identity hash), a
script-enforced ask against a peer-dependent bid with a self balance, funding output at index 2 with a duplicate -/
def exEnv : Env :=
  { deriveKey := fun f i => some [UInt8.ofNat f, UInt8.ofNat i]
    fundScript := fun t _ _ => some [if t then 1 else 0]
    H := id
    validKey := fun _ => true }
def exAsk : Kit := { nonce := [0xa], leaseDuration := 2016, channelType := 1, keyFamily := 6, keyIndex := 11 }
def exFBid : Bid :=
  { kit := { nonce := [0xb], leaseDuration := 2016, channelType := 0, keyFamily := 6, keyIndex := 12 },
    selfChanBalance := 250000, unannounced := true, zeroConf := false }
def exTx : BatchTx := { txid := [0x77], outs := [[9], [8], [0], [0]] }

example : ∃ req sT pidT eT,
    batchChannelSetup exEnv (.ask exAsk)
      { order := .bid { exFBid with kit := { exFBid.kit with keyFamily := 0, keyIndex := 0 } },
        multiSigKey := [6, 12], nodeKey := [5], unitsFilled := 7 } exTx 800000 = .ok (some req) ∧
    prepRegisters exEnv [5] (.bid exFBid)
      { order := .ask { exAsk with keyFamily := 0, keyIndex := 0 }, multiSigKey := [6, 11], nodeKey := [4],
        unitsFilled := 7 } exTx 800000 = .ok (some (sT, pidT, eT)) ∧
    ShimsAgree exEnv.H exAsk exFBid [6, 11] [6, 12] [5] 7 exTx 800000 [0] req sT pidT eT :=
  C17_shims_agree exEnv exEnv exAsk exFBid [6, 11] [6, 12] [4] [5] [5] 7 exTx 800000 _ _ [0]
    rfl rfl (fun _ _ _ => rfl) rfl rfl rfl (by decide) (by decide) (by decide)

-- the outpoint is index 2 (first of the two outputs with the funding script), thaw height absolute, type 4
def exReq' : Res (Option OpenReq) := batchChannelSetup exEnv (.ask exAsk)
  { order := .bid { exFBid with kit := { exFBid.kit with keyFamily := 0, keyIndex := 0 } },
    multiSigKey := [6, 12], nodeKey := [5], unitsFilled := 7 } exTx 800000
example : (match exReq' with
    | .ok (some q) => (q.shim.outputIndex, q.shim.thawHeight, q.commitmentType, q.shim.pendingChanId, q.isPrivate)
    | _ => (99, 0, 0, [], false)) = (2, 802016, 4, [0xa, 0xb], true) := by decide

def exTicket : Ticket :=
  { offer := { capacity := 700000, pushAmt := 250000, leaseDurationBlocks := 2016, unannounced := true, zeroConf := false },
    recipient := some { nodeKey := [0x33], multiSigKey := some [0x44], multiSigKeyIndex := 5 },
    orderBidNonce := some [0xb] }
def exSBid : Bid := { exFBid with sidecar := some exTicket }

example : ∃ req sT pidT eT,
    batchChannelSetup exEnv (.ask exAsk)
      { order := .bid { exFBid with kit := { exFBid.kit with keyFamily := 0, keyIndex := 0 } },
        multiSigKey := [0x44], nodeKey := [0x33], unitsFilled := 7 } exTx 800000 = .ok (some req) ∧
    prepRegisters exEnv [0x33]
      (.bid { kit := { nonce := [0xb], leaseDuration := 2016, channelType := 0, keyFamily := 0, keyIndex := 0 },
              selfChanBalance := 250000, unannounced := true, zeroConf := false, sidecar := some exTicket })
      { order := .ask { exAsk with keyFamily := 0, keyIndex := 0 }, multiSigKey := [6, 11], nodeKey := [4],
        unitsFilled := 7 } exTx 800000 = .ok (some (sT, pidT, eT)) ∧
    ShimsAgree exEnv.H exAsk exSBid [6, 11] [0x44] [0x33] 7 exTx 800000 [0] req sT pidT eT :=
  C17_sidecar_agree exEnv exEnv exAsk exSBid exTicket
    { nodeKey := [0x33], multiSigKey := some [0x44], multiSigKeyIndex := 5 } [6, 11] [0x44] [4] [0x33] 7 exTx 800000
    _ _ [0] [{ exTicket with orderBidNonce := some [0xc] }, exTicket] _
    rfl rfl (fun _ _ _ => rfl) rfl rfl rfl rfl rfl (by decide) (by decide) rfl
    ⟨rfl, rfl, rfl, rfl⟩
    (by
      intro t' ht' hn
      simp only [List.mem_cons, List.mem_nil_iff, or_false] at ht'
      cases ht' with
      | inl h => subst h; exact absurd hn (by decide)
      | inr h => subst h; exact ⟨rfl, rfl⟩)
    (by decide) (by decide)

example : offerGate exTicket.offer exSBid 700000 7 = true := by decide
example : offerSidecarOK exTicket.offer = true := by decide
example : C17_gate_consistent exTicket.offer exSBid 700000 7 (by decide) (by decide) =
    (⟨rfl, rfl, rfl, rfl⟩ : OfferConsistent exTicket.offer exSBid) := rfl

-- a bid matched with two asks of the *same* node: two registrations, one connection attempt
def exAsk2 : Kit := { exAsk with nonce := [0xc], keyIndex := 13 }
def exBatch : List (Order × List MatchedOrder) :=
  [(.bid exFBid,
    [{ order := .ask { exAsk with keyFamily := 0, keyIndex := 0 }, multiSigKey := [6, 11], nodeKey := [4], unitsFilled := 7 },
     { order := .ask { exAsk2 with keyFamily := 0, keyIndex := 0 }, multiSigKey := [6, 13], nodeKey := [4], unitsFilled := 3 }])]
example : (match prepBatch exEnv [5] exBatch exTx 800000 with
    | .ok out => (out.conns, out.regs.map (fun r => r.2.1))
    | _ => ([], [])) = ([[4]], [[0xa, 0xb], [0xc, 0xb]]) := by decide

-- re-proposal with a leftover shim: the second preparation fails; after a successful cancel it succeeds
example : (match prepBatchLnd exEnv [5] exBatch exTx 800000 [] with
    | .ok st => (match prepBatchLnd exEnv [5] exBatch { exTx with txid := [0x78] } 800003 st.lnd with
        | .err => (match prepBatchLnd exEnv [5] exBatch { exTx with txid := [0x78] } 800003
              (cancelPendingFundingShims exEnv.H exBatch [] st.lnd) with
            | .ok st2 => st2.lnd.map (fun e => (e.2.txid, e.2.thawHeight))
            | _ => [])
        | _ => [])
    | _ => []) = [([0x78], 802019), ([0x78], 802019)] := by decide

end Pool.C17
