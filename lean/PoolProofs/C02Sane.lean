import PoolProofs.C02
import PoolProofs.C02SaneLemmas
/-! C02 with input ranges instead of the overflow guard: `Sane env b` (`C02SaneLemmas.lean`) implies `NoOverflow`. -/
namespace Pool.C02
open Pool.Batch

theorem C02_noOverflow_of_sane {env : Env} {b : Batch} (h : Sane env b) : NoOverflow env b := by
  obtain ⟨hT, hO, ⟨hb0, hb1⟩, ⟨hr0, hr1⟩, ⟨hf0, hf1⟩, hN⟩ := h
  refine ⟨fun nm hnm o ho t ht => ?_, fun a ha => ?_⟩
  · obtain ⟨_, homem⟩ := findOrder_nonce (Option.mem_toList.mp ho)
    obtain ⟨hu, ht0, ht1⟩ := hT nm hnm t ht
    obtain ⟨ho0, ho1⟩ := hO o homem
    have hus : 0 ≤ unitsSat t ∧ unitsSat t < 2 ^ 49 := by unfold unitsSat; omega
    have hbs : 0 ≤ bidSelfBalance o t ∧ bidSelfBalance o t ≤ 2 ^ 49 := by
      unfold bidSelfBalance; split <;> constructor <;> assumption
    have hpb : 0 ≤ premiumBase o t ∧ premiumBase o t ≤ 2 ^ 50 := by
      unfold premiumBase; split <;> omega
    refine ⟨hu, by unfold I64; omega, ?_⟩
    split
    · exact execFee_i64 hb0 hb1 hr0 hr1 hus.1 (by omega)
    · exact execFee_i64 hb0 hb1 hr0 hr1 hpb.1 hpb.2
  · have hn := Nat.lt_of_le_of_lt (chargedCount_le env b a.key) hN
    generalize ((chargedTo env b a.key).map (·.2.length)).sum = n at hn ⊢
    refine ⟨by omega, ?_⟩
    have hv := witnessSize_le a.version
    have hw : 4 * (84 + (43 * n + 1) / 2) + (if a.version = 1 ∨ a.version = 2 then 66 else 229) ≤ 2 ^ 28 := by omega
    obtain ⟨hm0, hm1⟩ := mul_bounds hf0 hf1 (Int.natCast_nonneg _) (Int.ofNat_le.mpr hw)
    exact ⟨Int.le_trans (by decide) hm0, Int.lt_of_le_of_lt hm1 (by decide)⟩

theorem C02_accept_debits_exact_sane (env : Env) (b : Batch) (best : UInt32) (st : Tallies)
    (hs : Sane env b) (h : verify env Rules.fixed b best = .ok st) :
    (∀ d ∈ b.diffs, ChargedExactly env b best d) ∧ (b.diffs.map (·.acctKey)).Nodup :=
  C02_accept_debits_exact env b best st (C02_noOverflow_of_sane hs) h

/-- non-vacuity: the example proposal is inside the ranges and accepted -/
example : Sane exEnv exBatch ∧ isOk (verify exEnv Rules.fixed exBatch 101) = true := by
  refine ⟨?_, exBatch_accepted⟩
  unfold Sane
  decide

end Pool.C02
