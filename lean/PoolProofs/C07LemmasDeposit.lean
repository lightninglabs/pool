import PoolProofs.C07Lemmas
/-! Deposit lemmas: the assumptions on lnd's `FundPsbt`, the output fix-up without and with them, input totals. -/
namespace Pool.C07

theorem inputsForDeposit_ok {so : ScriptOf} {a : Account} {newOut : TxOut} {deposit : Int} {wt : Nat} {rate : Int}
    {fd : Option Funded} {tx : Tx} (h : inputsForDeposit so a newOut deposit wt rate fd = .ok tx) :
    ∃ fee fdv outs, acctInputFee wt rate = .ok fee ∧ fd = some fdv ∧
      fixupOutputs fdv.changeIdx newOut.script (deposit + fee) newOut.value 0 fdv.outputs = .ok outs ∧
      tx = { inputs := sortBy inLt (fdv.inputs ++ [a.txIn so]), outputs := sortBy outLt outs, lockTime := 0 } := by
  unfold inputsForDeposit at h
  split at h
  · cases h
  · rename_i fee hfee
    split at h
    · cases h
    · rename_i fdv
      split at h
      · cases h
      · rename_i outs houts
        simp only [Except.ok.injEq] at h
        exact ⟨fee, fdv, outs, hfee, rfl, houts, h.symm⟩

/-- ASSUMPTION 1 on lnd's `FundPsbt` (a parameter of the model, trusted) – SHAPE: it returns the template output
unchanged, optionally with one change output before or after it (`changeIdx` pointing at it, −1 if none). -/
def FundShape (fd : Funded) (tplScript : Script) (tplValue : Int) (change : List TxOut) : Prop :=
  (fd.changeIdx = -1 ∧ change = [] ∧ fd.outputs = [⟨tplValue, tplScript⟩]) ∨
  (fd.changeIdx = 0 ∧ ∃ c, change = [c] ∧ fd.outputs = [c, ⟨tplValue, tplScript⟩]) ∨
  (fd.changeIdx = 1 ∧ ∃ c, change = [c] ∧ fd.outputs = [⟨tplValue, tplScript⟩, c])

/-- ASSUMPTION 2 on lnd's `FundPsbt` – SUM: the inputs it selected pay for exactly template + change + its own fee
`lndFee ≥ 0`. -/
def FundSum (fd : Funded) (tplValue : Int) (change : List TxOut) (lndFee : Int) : Prop :=
  (fd.inputs.map (·.utxoValue)).sum = tplValue + sumValues change + lndFee ∧ 0 ≤ lndFee

def FundOk (fd : Funded) (tplScript : Script) (tplValue : Int) (change : List TxOut) (lndFee : Int) : Prop :=
  FundShape fd tplScript tplValue change ∧ FundSum fd tplValue change lndFee

theorem exceptMap_ok {α β} {f : α → β} {x : Except Refusal α} {v : β} (h : x.map f = .ok v) :
    ∃ u, x = .ok u ∧ v = f u := by
  cases x with
  | error r => cases h
  | ok u => exact ⟨u, rfl, (Except.ok.inj h).symm⟩

theorem fixupOutputs_ok {ci : Int} {s : Script} {e nv : Int} {i : Nat} {os outs : List TxOut}
    (h : fixupOutputs ci s e nv i os = .ok outs) :
    outs = (os.zipIdx i).map fun p => if ci = (p.2 : Int) then p.1 else ⟨nv, s⟩ := by
  induction os generalizing i outs with
  | nil => cases h; rfl
  | cons o os ih =>
    rw [fixupOutputs] at h
    rw [List.zipIdx_cons, List.map_cons]
    split at h
    · rename_i hc
      obtain ⟨rest, hr, rfl⟩ := exceptMap_ok h
      rw [ih hr, if_pos hc.2]
    · rename_i hc
      obtain ⟨hs, h⟩ := ite_error_eq_ok.mp h
      obtain ⟨_, h⟩ := ite_error_eq_ok.mp h
      obtain ⟨rest, hr, rfl⟩ := exceptMap_ok h
      rw [ih hr, if_neg fun hci : ci = (i : Int) => hc ⟨hci ▸ Int.natCast_nonneg i, hci⟩, Decidable.not_not.mp hs]

theorem fixup_fundShape {fd : Funded} {s : Script} {tplV nv : Int} {change : List TxOut}
    {outs : List TxOut} (hshape : FundShape fd s tplV change)
    (h : fixupOutputs fd.changeIdx s tplV nv 0 fd.outputs = .ok outs) :
    outs.Perm (⟨nv, s⟩ :: change) := by
  rw [fixupOutputs_ok h]
  rcases hshape with ⟨hc, rfl, ho⟩ | ⟨hc, c, rfl, ho⟩ | ⟨hc, c, rfl, ho⟩
  · rw [hc, ho]; exact .refl _
  · rw [hc, ho]; exact .swap _ _ _
  · rw [hc, ho]; exact .refl _

/-- value the sanity check attributes to an input -/
def inVal (a : Account) (i : TxIn) : Int := if i.prev = a.outPoint then a.value else i.utxoValue

theorem sanityInputs_total {a : Account} {wt : Nat} {is : List TxIn} {tot tot' : Int} {w w' : Nat}
    (h : sanityInputs a wt is tot w = .ok (tot', w')) : tot' = tot + (is.map (inVal a)).sum := by
  induction is generalizing tot w with
  | nil => simp [sanityInputs] at h; simp [h.1]
  | cons i is ih =>
    rw [List.map_cons, List.sum_cons, inVal, ← Int.add_assoc]
    simp only [sanityInputs] at h
    split at h
    · rename_i hp
      rw [if_pos hp]
      split at h
      · cases h
      · exact ih h
    · rename_i hp
      rw [if_neg hp]
      -- wallet inputs: P2WKH, nested P2WKH and P2TR are accepted, the other classes refused
      split at h
      case h_4 | h_5 => cases h
      all_goals exact ih h

/-- the sanity check takes `a.value` for every input that spends the account's outpoint, hence `hnd`: no wallet input
does -/
theorem sanityInputs_deposit {so : ScriptOf} {a : Account} {wt : Nat} {ins inputs : List TxIn} {inT : Int} {w : Nat}
    (hp : inputs.Perm (ins ++ [a.txIn so])) (hnd : (inputs.map (·.prev)).Nodup)
    (h : sanityInputs a wt inputs 0 0 = .ok (inT, w)) : inT = a.value + (ins.map (·.utxoValue)).sum := by
  have hne : ∀ i ∈ ins, i.prev ≠ a.outPoint := by
    intro i hi hp'
    have hnd' := (hp.map (·.prev)).nodup_iff.mp hnd
    rw [List.map_append, List.nodup_append] at hnd'
    exact hnd'.2.2 i.prev (List.mem_map.mpr ⟨i, hi, rfl⟩) a.outPoint (by simp [Account.txIn]) hp'
  have hwallet : ins.map (inVal a) = ins.map (·.utxoValue) := List.map_congr_left fun i hi => if_neg (hne i hi)
  rw [sanityInputs_total h, sum_map_perm _ hp, List.map_append, List.sum_append, hwallet]
  simp [inVal, Account.txIn]; omega

end Pool.C07
