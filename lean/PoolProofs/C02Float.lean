import PoolProofs.C01
import PoolProofs.Float64
/-! C02 with the exact binary64 premium.  The C02 theorems hold for every premium function; here it is `floatPremium`
(`PoolModel/Batch.lean`: the exact model of `FixedRatePremium.LumpSumPremium` from `PoolModel/Float64.lean` inside its
domain), which is what the driver runs against the Go code, and the Float64 theorems say what the premium summand of
the balance equation is worth. -/
namespace Pool.C02
open Pool.Batch Pool.Float64

theorem C02_floatPremium_eq (fb : Int → Nat → Nat → Int) (amt rate dur : Nat)
    (h : premiumInRange amt rate dur = true) :
    floatPremium fb (amt : Int) rate dur = (premium amt rate dur : Int) := by
  unfold floatPremium
  simp [h]

/-- inside its domain the float premium is the exact rational premium `amt·rate·dur/10⁹` up to a relative 2⁻⁵⁰ and the
final truncation -/
theorem C02_floatPremium_near (fb : Int → Nat → Nat → Int) (amt rate dur : Nat)
    (h : premiumInRange amt rate dur = true) :
    exactPremium amt rate dur * (1 - 1 / 2 ^ 50) - 1 < ((floatPremium fb (amt : Int) rate dur : Int) : ℚ) ∧
    ((floatPremium fb (amt : Int) rate dur : Int) : ℚ) ≤ exactPremium amt rate dur * (1 + 1 / 2 ^ 50) := by
  rw [C02_floatPremium_eq fb amt rate dur h]
  simpa using Float64_premium_near amt rate dur

theorem premiumInRange_mono_rate {amt r r' dur : Nat} (hr : r ≤ r') (h : premiumInRange amt r' dur = true) :
    premiumInRange amt r dur = true := by
  unfold premiumInRange at h ⊢
  simp only [Bool.and_eq_true, decide_eq_true_eq] at h ⊢
  obtain ⟨⟨⟨h1, h2⟩, h3⟩, h4⟩ := h
  refine ⟨⟨⟨h1, by omega⟩, h3⟩, ?_⟩
  have := Float64_premium_mono (a := amt) (a' := amt) (r := r) (r' := r') (d := dur) (d' := dur)
    (Nat.le_refl _) hr (Nat.le_refl _)
  unfold premium at this
  omega

theorem floatPremium_mono_rate (fb : Int → Nat → Nat → Int) {amt r r' dur : Nat} (hr : r ≤ r')
    (h : premiumInRange amt r' dur = true) :
    floatPremium fb (amt : Int) r dur ≤ floatPremium fb (amt : Int) r' dur := by
  rw [C02_floatPremium_eq fb amt r dur (premiumInRange_mono_rate hr h), C02_floatPremium_eq fb amt r' dur h]
  exact_mod_cast Float64_premium_mono (Nat.le_refl _) hr (Nat.le_refl _)

/-- **Premiums respect the order's own rate.**  In an accepted batch the float premium at the clearing price is, on every
amount `a` inside the float domain at the higher rate, at least the one at a matched ask's own rate and at most the one
at a matched bid's own rate.  So where `env.premium` is `floatPremium fb`, an ask earns at least, and a bid pays at
most, the premium at its own rate. -/
theorem C02_premium_respects_own_rate (env : Env) (rules : Rules) (b : Batch) (best : UInt32)
    (pending : Option String) (st : Tallies) (fb : Int → Nat → Nat → Int) (hw : WireRanges b)
    (h : (orderMatchValidate env rules b best pending).1 = .ok st) :
    ∀ nm ∈ b.matched, ∃ o, findOrder nm.1 env.orders = some o ∧ ∀ (a : Nat),
      (o.isAsk = true → premiumInRange a (clearingPrice b o.duration) o.duration = true →
        floatPremium fb (a : Int) o.rate o.duration ≤ floatPremium fb (a : Int) (clearingPrice b o.duration) o.duration) ∧
      (o.isAsk = false → premiumInRange a o.rate o.duration = true →
        floatPremium fb (a : Int) (clearingPrice b o.duration) o.duration ≤ floatPremium fb (a : Int) o.rate o.duration) := by
  intro nm hnm
  obtain ⟨_, _, hall⟩ := Pool.C01.C01_accept_honours_terms env rules b best pending st hw h
  obtain ⟨o, ho, _, hcp, _⟩ := hall nm hnm
  refine ⟨o, ho, fun a => ⟨?_, ?_⟩⟩
  · intro hA hr
    simp only [hA, if_true] at hcp
    exact floatPremium_mono_rate fb hcp hr
  · intro hA hr
    simp only [hA, Bool.false_eq_true, if_false] at hcp
    exact floatPremium_mono_rate fb hcp hr

/-- non-vacuity: 3 units at 110 ppb/block for 2016 blocks are inside the domain and cost 66 sat; at the ask's own
rate 100 they would cost 60 sat -/
example : premiumInRange 300000 110 2016 = true ∧ floatPremium (fun _ _ _ => 0) 300000 110 2016 = 66 ∧
    floatPremium (fun _ _ _ => 0) 300000 100 2016 = 60 := by decide +kernel

end Pool.C02
