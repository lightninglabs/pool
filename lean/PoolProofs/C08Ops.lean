import PoolModel.C08
import PoolProofs.Guard
/-! What the operations of the C08 model do, independent of any invariant: the regenerated tables resolved once, the
split of a machine state into store part and watcher part (`SameStore`), one elimination rule per operation (`*_cases`;
for `modify` and `stage`, which build the new record field by field, the branch says of it what the invariants use),
and what a predicate on the store part has to survive to be an invariant of `step` (`StoreInv`, `HandlerInv`). -/
namespace Pool.C08
open Pool.Gen

def waitsForConf : State → Bool
  | .pendingOpen | .pendingUpdate | .pendingBatch | .expiredPendingUpdate => true
  | _ => false

theorem confNext_eq (st : State) : confNext st = match st with
    | .pendingOpen | .pendingUpdate | .pendingBatch => some .open_
    | .expiredPendingUpdate => some .expired
    | _ => none := by
  cases st <;> decide

theorem expiryNext_eq (st : State) : expiryNext st = match st with
    | .pendingUpdate | .pendingBatch => .to .expiredPendingUpdate
    | .open_ => .to .expired
    | .pendingClosed | .closed => .noop
    | _ => .err := by
  cases st <;> decide

theorem confNext_isSome (s : State) : (confNext s).isSome = waitsForConf s := by
  rw [confNext_eq]; cases s <;> rfl

theorem confNext_target {s t : State} (h : confNext s = some t) : t = .open_ ∨ t = .expired := by
  rw [confNext_eq] at h
  cases s <;> simp at h <;> simp [← h]

theorem expiryNext_to {s t : State} (h : expiryNext s = .to t) :
    s = .open_ ∧ t = .expired ∨ (s = .pendingUpdate ∨ s = .pendingBatch) ∧ t = .expiredPendingUpdate := by
  rw [expiryNext_eq] at h
  cases s <;> simp at h <;> subst h <;> simp

theorem accepts_iff (st : State) :
    (accepts Lifecycle.acceptsDepositAccount st = true ↔ st = .open_) ∧
    (accepts Lifecycle.acceptsWithdrawAccount st = true ↔ st = .open_) ∧
    (accepts Lifecycle.acceptsRenewAccount st = true ↔ st = .open_ ∨ st = .expired) ∧
    (accepts Lifecycle.acceptsCloseAccount st = true ↔ st = .open_ ∨ st = .expired) ∧
    (accepts Lifecycle.acceptsBumpAccountFee st = true ↔
      st = .pendingOpen ∨ st = .pendingUpdate ∨ st = .pendingClosed) := by
  cases st <;> decide

theorem spendCloseState_closed : spendCloseState = .closed := by decide +kernel

theorem storer_row {r : Nat × Nat × Bool × Bool} (h : r ∈ Lifecycle.storerEnding) :
    State.ofNat? r.2.1 = some (if r.2.2.1 then .pendingBatch else .pendingClosed) := by
  revert r; decide

theorem handleStateOpen_eq (s : AState) (a : Acct) :
    handleStateOpen s a = watchExpiration (regSpend s a.outpoint (a.script s.key)) a.expiry := by
  have h1 : Lifecycle.handleStateOpenCalls.contains "WatchAccountSpend" = true := by decide +kernel
  have h2 : Lifecycle.handleStateOpenCalls.contains "WatchAccountExpiration" = true := by decide +kernel
  simp only [handleStateOpen, h1, h2, if_true]

theorem resumeActs_spec (st : State) : ∃ acts, resumeActs st = some acts ∧
    acts.contains "WatchAccountConf" = waitsForConf st ∧
    acts.contains "handleStateOpen" = (st == .open_) ∧
    acts.contains "WatchAccountSpend" = (st == .expired || st == .pendingClosed) ∧
    acts.contains "WatchAccountExpiration" = (st == .pendingUpdate || st == .pendingBatch) ∧
    acts.contains "[onRestart]maybeBroadcastTx" = (st == .pendingOpen) ∧
    acts.contains "maybeBroadcastTx" = (st == .pendingClosed) := by
  cases st <;> exact ⟨_, rfl, by decide +kernel⟩

theorem resumeActs_initiated : ∃ acts, resumeActs .initiated = some acts ∧
    acts.contains "[onRecovery || onRestart]locateTxByOutput" = true ∧ acts.contains "fallthrough" = true :=
  ⟨_, rfl, by decide +kernel⟩

theorem mem_of_lookup {α β : Type} [BEq α] [LawfulBEq α] {l : List (α × β)} {k : α} {v : β}
    (h : l.lookup k = some v) : (k, v) ∈ l := by
  obtain ⟨l₁, l₂, rfl, -⟩ := List.lookup_eq_some_iff.mp h
  simp

@[simp] theorem write_acct (s : AState) (a : Acct) : (write s a).acct = some a.stored := rfl
@[simp] theorem write_staged (s : AState) (a : Acct) : (write s a).staged = s.staged := rfl
@[simp] theorem write_key (s : AState) (a : Acct) : (write s a).key = s.key := rfl
@[simp] theorem write_wallet (s : AState) (a : Acct) : (write s a).wallet = s.wallet := rfl

theorem stored_of_live {a : Acct} (h : a.state ≠ .initiated) (h' : a.state ≠ .canceled) : a.stored = a := by
  unfold Acct.stored; simp [h, h']

theorem write_acct_of_live (s : AState) {a : Acct} (h : a.state ≠ .initiated) (h' : a.state ≠ .canceled) :
    (write s a).acct = some a :=
  congrArg some (stored_of_live h h')

theorem stored_state (a : Acct) : a.stored.state = a.state := by
  unfold Acct.stored; split <;> rfl

theorem maybeBroadcast_acct (s : AState) (t : Tx) : (maybeBroadcast s t).acct = s.acct := by
  unfold maybeBroadcast; split <;> rfl

/-- free: the watcher part (registry, best height, registration counter), the environment's fault flags and the
signer secret -/
structure SameStore (s s' : AState) : Prop where
  key : s'.key = s.key
  acct : s'.acct = s.acct
  staged : s'.staged = s.staged
  wallet : s'.wallet = s.wallet
  trace : s'.trace = s.trace

theorem SameStore.refl (s : AState) : SameStore s s := ⟨rfl, rfl, rfl, rfl, rfl⟩
theorem SameStore.trans {a b c : AState} (h1 : SameStore a b) (h2 : SameStore b c) : SameStore a c :=
  ⟨h2.key.trans h1.key, h2.acct.trans h1.acct, h2.staged.trans h1.staged, h2.wallet.trans h1.wallet,
   h2.trace.trans h1.trace⟩

theorem same_watch (s : AState) (w : Watch) (b n : Nat) : SameStore s { s with w := w, best := b, nextReg := n } :=
  ⟨rfl, rfl, rfl, rfl, rfl⟩
theorem same_regConf (s : AState) (x : Nat) (sc : Script) : SameStore s (regConf s x sc) := same_watch s _ _ _
theorem same_regSpend (s : AState) (x : OutPoint) (sc : Script) : SameStore s (regSpend s x sc) := same_watch s _ _ _
theorem same_cancelConf (s : AState) : SameStore s (cancelConf s) := by
  unfold cancelConf; split
  · exact same_watch s _ _ _
  · exact .refl s
theorem same_cancelSpend (s : AState) : SameStore s (cancelSpend s) := by
  unfold cancelSpend; split
  · exact same_watch s _ _ _
  · exact .refl s

theorem handleExpiry_cases {P : AState → Prop} (s : AState)
    (same : (∀ a t, s.acct = some a → expiryNext a.state ≠ .to t) → P s)
    (moved : ∀ a t, s.acct = some a → expiryNext a.state = .to t → P (write s { a with state := t })) :
    P (handleExpiry s) := by
  unfold handleExpiry
  split
  · exact same fun a t ha => by simp_all
  · rename_i a ha
    split
    · exact moved _ _ ha ‹_›
    · rename_i hn
      exact same fun b t hb => (Option.some.inj (ha.symm.trans hb)) ▸ hn t

theorem handleConf_cases {P : AState → Prop} (s : AState) (h : Nat)
    (same : (∀ a, s.acct = some a → confNext a.state = none) → P s)
    (moved : ∀ a t, s.acct = some a → confNext a.state = some t →
      P (handleStateOpen (write s { a with state := t, heightHint := h }) { a with state := t, heightHint := h })) :
    P (handleConf s h) := by
  unfold handleConf
  split
  · exact same fun a ha => by simp_all
  · rename_i a ha
    split
    · rename_i hn
      exact same fun b hb => (Option.some.inj (ha.symm.trans hb)) ▸ hn
    · exact moved _ _ ha ‹_›

/-- `accepted a a' t` (old record, new record, its transaction), then in order: `s.acct = some a`, `a`'s state; of `a'`
the state, `latestTx`, that `t` is the outpoint's transaction, has its output and spends `a`'s outpoint.  It asks for
both outcomes of the last step, the optional re-registration of the expiry. -/
theorem modify_cases {P : AState × Res → Prop} (s : AState) (k : Kind) (m : ModArgs)
    (refused : P (s, .err))
    (accepted : ∀ a a' t, s.acct = some a → (a.state = .open_ ∨ a.state = .expired) →
      a'.state = .pendingUpdate → a'.latestTx = some t → t.id = a'.outpoint.txid →
      t.outAt a'.outpoint.idx = some (a'.out s.key) → a.outpoint ∈ t.spends →
      P (maybeBroadcast (write s a') t, .ok) ∧
      P (watchExpiration (maybeBroadcast (write s a') t) a'.expiry, .ok)) :
    P (modify s k m) := by
  unfold modify
  split
  · exact refused
  · rename_i a ha
    refine guard_cases refused fun hacc => ?_
    refine guard_cases refused fun _ => ?_
    refine guard_cases refused fun _ => ?_
    refine guard_cases refused fun _ => ?_
    refine guard_cases refused fun _ => ?_
    have hst : a.state = .open_ ∨ a.state = .expired := by
      obtain ⟨h1, h2, h3, -, -⟩ := accepts_iff a.state
      cases k
      · exact Or.inl (h1.mp (by simpa using hacc))
      · exact Or.inl (h2.mp (by simpa using hacc))
      · exact h3.mp (by simpa using hacc)
    refine guard_cases (P := fun z => P (z, Res.ok)) (And.right ?both) fun _ => And.left ?both
    refine accepted a _ _ ha hst rfl rfl rfl ?_ (List.mem_singleton.mpr rfl)
    simp [Tx.outAt, List.lookup, Acct.out, Acct.script]

theorem close_cases {P : AState × Res → Prop} (s : AState) (h txid : Nat) (ok sg : Bool)
    (refused : (∀ a, s.acct = some a → accepts Lifecycle.acceptsCloseAccount a.state = true → ok = false) →
      P (s, .err))
    (accepted : ∀ a t, s.acct = some a → (a.state = .open_ ∨ a.state = .expired) →
      t = ⟨txid, [a.outpoint], [], sg, witnessType a h⟩ →
      P (maybeBroadcast (write s { a with value := 0, state := .pendingClosed, heightHint := h, latestTx := some t }) t,
        .ok)) :
    P (close s h txid ok sg) := by
  unfold close
  split
  · rename_i hn
    exact refused fun a ha => nomatch hn.symm.trans ha
  · rename_i a ha
    -- `iteInduction`: like `guard_cases`, but the failure branch gets the guard too
    refine iteInduction (fun hacc => refused fun b hb hb' => ?_) fun hacc =>
      iteInduction (fun hok => refused fun _ _ _ => (Bool.not_eq_true' ok).mp hok) fun _ => ?_
    · obtain rfl : a = b := Option.some.inj (ha.symm.trans hb)
      rw [hb'] at hacc
      cases hacc
    · exact accepted a _ ha ((accepts_iff a.state).2.2.2.1.mp (by simpa using hacc)) rfl

theorem bump_fst (s : AState) : (bump s).1 = s := by
  unfold bump
  repeat' split
  all_goals rfl

theorem stage_cases {P : AState × Res → Prop} (s : AState) (g : StageArgs) (refused : P (s, .err))
    (staged : ∀ b t, b.latestTx = some t →
      (b.state = .pendingBatch ∧ t.id = b.outpoint.txid ∧ t.outAt b.outpoint.idx = some (b.out s.key) ∨
       b.state = .pendingClosed ∧ b.outpoint ∈ t.spends) → P ({ s with staged := some b }, .ok)) :
    P (stage s g) := by
  unfold stage
  split
  · exact refused
  · rename_i a ha
    split
    · exact refused
    · rename_i stN hasOp hasInc hl
      split
      · exact refused
      · rename_i st hst
        refine staged _ _ rfl ?_
        obtain rfl : (if hasOp then State.pendingBatch else .pendingClosed) = st :=
          Option.some.inj ((storer_row (mem_of_lookup hl)).symm.trans hst)
        cases hasOp
        · exact Or.inr ⟨rfl, List.mem_singleton.mpr rfl⟩
        · exact Or.inl ⟨rfl, rfl, by simp [Tx.outAt, Acct.out, Acct.script]⟩

theorem txHasOutput_spec {t : Tx} {o : TxOut} (h : txHasOutput t o = true) :
    ∃ i, t.locate o.script = some i ∧ (t.outAt i).map (·.value) = some o.value := by
  unfold txHasOutput at h
  split at h
  · rename_i i hi; exact ⟨i, hi, by simpa using h⟩
  · simp at h

theorem locateTxByOutput_spec {wallet : List Tx} {o : TxOut} {full : Option Tx} {t : Tx}
    (h : locateTxByOutput wallet o full = some t) :
    txHasOutput t o = true ∧ (t ∈ wallet ∨ full = some t) := by
  unfold locateTxByOutput at h
  split at h
  · rename_i t0
    split at h
    · rename_i hh; simp at h; subst h; exact ⟨hh, Or.inr rfl⟩
    · have := List.find?_some h; exact ⟨this, Or.inl (List.mem_of_find?_eq_some h)⟩
  · have := List.find?_some h; exact ⟨this, Or.inl (List.mem_of_find?_eq_some h)⟩

/-- how the `StateInitiated` clause came by the funding transaction `t`, and the state it left: the output was located
in the wallet or in the record's own transaction, or – never on recovery – the wallet created it -/
inductive Funded (s : AState) (a : Acct) (onRecovery : Bool) : AState → Tx → Prop
  | located {t : Tx} : locateTxByOutput s.wallet (a.out s.key) a.latestTx = some t →
      (s.walletFail = true → viaFull s.key a = true) → Funded s a onRecovery s t
  | created (id idx : Nat) : onRecovery = false → Funded s a onRecovery
      { s with wallet := s.wallet ++ [⟨id, [], [(idx, a.out s.key)], true, 0⟩],
               trace := s.trace ++ [.fund (a.out s.key)] } ⟨id, [], [(idx, a.out s.key)], true, 0⟩

theorem Funded.key {s s' : AState} {a : Acct} {onRecovery : Bool} {t : Tx} (h : Funded s a onRecovery s' t) :
    s'.key = s.key := by
  cases h <;> rfl

theorem Funded.hasOutput {s s' : AState} {a : Acct} {onRecovery : Bool} {t : Tx} (h : Funded s a onRecovery s' t) :
    txHasOutput t (a.out s.key) = true := by
  cases h with
  | located hloc => exact (locateTxByOutput_spec hloc).1
  | created => simp [txHasOutput, Tx.locate, Tx.outAt, List.lookup]

/-- `cancel`: that the wallet was asked at all is a fact about the regenerated clause (`resumeActs_initiated`), hence
the premise on `acts` -/
theorem fundOrLocate_cases {P : FundRes → Prop} (s : AState) (a : Acct) (onRestart onRecovery fee : Bool)
    (f : Option (Nat × Nat)) (acts : List String)
    (fail : s.walletFail = true ∨ onRecovery = false → P (.fail .err))
    (cancel : onRecovery = true → (acts.contains "[onRecovery || onRestart]locateTxByOutput" = true →
      s.walletFail = false ∧ locateTxByOutput s.wallet (a.out s.key) a.latestTx = none) → P .cancel)
    (got : ∀ s' t, Funded s a onRecovery s' t → P (.got s' t)) :
    P (fundOrLocate s a onRestart onRecovery fee f acts) := by
  unfold fundOrLocate
  simp only []
  split
  · rename_i t hloc
    split at hloc
    · rename_i hlook
      refine iteInduction (fun hf => ?_) fun hf => got s t (.located hloc fun hw => ?_)
      · simp only [Bool.and_eq_true] at hf
        exact fail (Or.inl hf.1.2)
      · cases hv : viaFull s.key a
        · rw [hlook, hw, hv] at hf
          exact absurd rfl hf
        · rfl
    · cases hloc
  · rename_i hloc
    refine iteInduction (fun hf => ?_) fun hf => iteInduction (fun hr => cancel hr fun hl => ?_) fun hr => ?_
    · simp only [Bool.and_eq_true] at hf
      exact fail (Or.inl hf.2)
    · rw [hr, hl, Bool.or_true] at hf hloc
      exact ⟨Bool.eq_false_iff.mpr hf, hloc⟩
    · have hr : onRecovery = false := Bool.eq_false_iff.mpr hr
      refine guard_cases (fail (Or.inr hr)) fun _ => guard_cases (fail (Or.inr hr)) fun _ => ?_
      split
      · exact fail (Or.inr hr)
      · exact got _ _ (.created _ _ hr)

theorem fundOrLocate_key {s s' : AState} {a : Acct} {r1 r2 fee : Bool} {f : Option (Nat × Nat)}
    {acts : List String} {t : Tx} (h : fundOrLocate s a r1 r2 fee f acts = .got s' t) : s'.key = s.key :=
  fundOrLocate_cases (P := fun x => x = .got s' t → s'.key = s.key) s a r1 r2 fee f acts (fun _ => nofun)
    (fun _ _ => nofun) (fun _ _ hf e => by cases e; exact hf.key) h

/-- the record carries the transaction its `resumeAccount` clause rebroadcasts -/
structure CarriesTx (a : Acct) : Prop where
  funding : a.state = .pendingOpen → ∃ t, a.latestTx = some t ∧ t.id = a.outpoint.txid
  closing : a.state = .pendingClosed → ∃ t, a.latestTx = some t

/-- what the `resumeAccount` clause of `a` rebroadcasts: the record's latest transaction or, for a pending-open record
that does not carry its funding transaction, the wallet's copy of it -/
structure Rebroadcasts (a : Acct) (onRestart : Bool) (t : Tx) : Prop where
  due : a.state = .pendingOpen ∧ onRestart = true ∨ a.state = .pendingClosed
  tx : a.latestTx = some t ∨ a.state = .pendingOpen ∧ ∀ t', a.latestTx = some t' → t'.id ≠ a.outpoint.txid

/-- `s1` is the state after the clause's rebroadcast, if it has one; a clause that finds no transaction to rebroadcast
fails at once -/
theorem resumeRest_cases {P : AState × Res → Prop} (s : AState) (a : Acct) (onRestart : Bool)
    (fail : ¬CarriesTx a → ∀ res, res ≠ .ok → P (s, res))
    (arm : ∀ acts s1, resumeActs a.state = some acts →
      (s1 = s ∨ ∃ t, Rebroadcasts a onRestart t ∧ s1 = maybeBroadcast s t) →
      ∀ res, P (expiryRearm (watchers s1 a acts) a acts, res)) :
    P (resumeRest s a onRestart) := by
  obtain ⟨acts, hacts, -, -, -, -, hr, hc⟩ := resumeActs_spec a.state
  have arm' : ∀ s1, _ → P (expiryRearm (watchers s1 a acts) a acts, subscribeRes s a acts) :=
    fun s1 h => arm acts s1 hacts h _
  simp only [resumeRest, hacts, rebroadcast, hr, hc, beq_iff_eq, Bool.and_eq_true]
  by_cases hpo : a.state = .pendingOpen ∧ onRestart = true
  · rw [if_pos hpo]
    -- `LatestTx` if it is the funding transaction, else the wallet's transaction with that hash
    split
    · rename_i t ht
      refine arm' _ (.inr ⟨t, ⟨.inl hpo, ?_⟩, rfl⟩)
      split at ht
      · rename_i t0 hl
        by_cases hid : t0.id = a.outpoint.txid
        · rw [if_pos hid] at ht
          cases ht
          exact .inl hl
        · exact .inr ⟨hpo.1, by simp [hl, hid]⟩
      · rename_i hl
        exact .inr ⟨hpo.1, by simp [hl]⟩
    · rename_i hn
      refine fail (fun hc => ?_) _ (by simp)
      obtain ⟨t, hl, hid⟩ := hc.funding hpo.1
      simp [hl, hid] at hn
  · rw [if_neg hpo]
    by_cases hpc : a.state = .pendingClosed
    · rw [if_pos hpc]
      cases hl : a.latestTx with
      | none => exact fail (fun hc => (hc.closing hpc).elim fun t ht => by rw [hl] at ht; cases ht) _ (by simp)
      | some t => exact arm' _ (Or.inr ⟨t, ⟨Or.inr hpc, Or.inl hl⟩, rfl⟩)
    · rw [if_neg hpc]
      exact arm' _ (Or.inl rfl)

theorem resume_cases {P : AState × Res → Prop} (s : AState) (a : Acct) (onRestart onRecovery fee : Bool)
    (f : Option (Nat × Nat)) (rest : a.state ≠ .initiated → P (resumeRest s a onRestart))
    (failed : a.state = .initiated → s.walletFail = true ∨ onRecovery = false → P (s, .err))
    (cancelled : a.state = .initiated → onRecovery = true → s.walletFail = false →
      locateTxByOutput s.wallet (a.out s.key) a.latestTx = none → P (write s { a with state := .canceled }, .err))
    (opened : a.state = .initiated → ∀ s' t idx, Funded s a onRecovery s' t →
      t.locate (a.script s.key) = some idx →
      P (resumeRest (write s' { a with state := .pendingOpen, outpoint := ⟨t.id, idx⟩, latestTx := some t })
        { a with state := .pendingOpen, outpoint := ⟨t.id, idx⟩, latestTx := some t } onRestart)) :
    P (resume s a onRestart onRecovery fee f) := by
  by_cases hi : a.state = .initiated
  · obtain ⟨acts, hacts, hlook, hft⟩ := resumeActs_initiated
    -- the funding step decides the branch; `e` carries its outcome into `resume`
    refine fundOrLocate_cases (P := fun x => fundOrLocate s a onRestart onRecovery fee f acts = x → _) s a onRestart
      onRecovery fee f acts (fun hc e => ?_) (fun hr hc e => ?_) (fun s' t hf e => ?_) rfl
    all_goals simp only [resume, hi, if_true, hacts, e, hft]
    · exact failed hi hc
    · exact cancelled hi hr (hc hlook).1 (hc hlook).2
    · obtain ⟨i, hidx, -⟩ := txHasOutput_spec hf.hasOutput
      have hidx : t.locate (a.script s.key) = some i := hidx
      simp only [hf.key, hidx]
      exact opened hi s' t i hf hidx
  · rw [resume, if_neg hi]
    exact rest hi

theorem completeOnly_cases {P : AState → Prop} (s : AState) (idle : s.staged = none → P s)
    (applied : ∀ b, s.staged = some b → P { write s b with staged := none }) : P (completeOnly s) := by
  unfold completeOnly
  split
  · exact idle ‹_›
  · exact applied _ ‹_›

theorem completeOnly_acct_isSome {s : AState} {a : Acct} (ha : s.acct = some a) : ∃ b, (completeOnly s).acct = some b :=
  completeOnly_cases (P := fun x => ∃ b, x.acct = some b) s (fun _ => ⟨a, ha⟩) fun _ _ => ⟨_, rfl⟩

theorem handleSpend_cases {P : AState × Res → Prop} (s : AState) (t : Tx) (h : Nat)
    (refused : s.acct = none ∨ ¬(t.wit = 1 ∨ t.wit = 2) → P (s, .err))
    (swept : ∀ a, s.acct = some a → P (write s { a with state := .closed, heightHint := h, latestTx := some t }, .ok))
    (spent : ∀ a, (completeOnly s).acct = some a →
      P (write (completeOnly s) { a with state := .closed, heightHint := h, latestTx := some t }, .ok))
    (resumed : ∀ a, (completeOnly s).acct = some a → P (resume (completeOnly s) a false false false none)) :
    P (handleSpend s t h) := by
  unfold handleSpend
  rw [spendCloseState_closed]
  split
  · exact refused (Or.inl ‹_›)
  · rename_i a ha
    refine guard_cases (swept a ha) fun hw1 => guard_cases ?_ fun hw2 => refused (Or.inr ?_)
    · obtain ⟨b, hb⟩ := completeOnly_acct_isSome ha
      simp only [hb]
      split
      · exact resumed b hb
      · exact spent b hb
    · rintro (hc | hc)
      · exact hw1 (by simp [hc])
      · exact hw2 (by simp [hc])

theorem watchMatched_cases {P : AState × Res → Prop} (s : AState) (refused : s.acct = none → P (s, .err))
    (resumed : ∀ a s', s.acct = some a → SameStore s s' → P (resume s' a false false false none)) :
    P (watchMatched s) := by
  unfold watchMatched
  split
  · exact refused ‹_›
  · exact resumed _ _ ‹_› ((same_cancelSpend s).trans (same_cancelConf _))

theorem run_preserves {P : AState → Prop} {C : Op → Prop} (hstep : ∀ s op, P s → C op → P (step s op).1)
    (s : AState) (ops : List Op) (h : P s) (hc : ∀ op ∈ ops, C op) : P (run s ops) := by
  induction ops generalizing s with
  | nil => exact h
  | cons op ops ih =>
    exact ih _ (hstep s op h (hc op List.mem_cons_self)) fun o ho => hc o (List.mem_cons_of_mem _ ho)

/-- enough to survive everything the watcher-arming part of `resumeAccount` does (`watchExpiration` may run
`HandleAccountExpiry` at once) -/
structure StoreInv (P : AState → Prop) : Prop where
  same : ∀ {s s'}, SameStore s s' → P s → P s'
  onExpiry : ∀ {s}, P s → P (handleExpiry s)

namespace StoreInv
variable {P : AState → Prop} (hP : StoreInv P) {s : AState}
include hP

protected theorem watchExpiration (h : P s) (e : Nat) : P (watchExpiration s e) :=
  guard_cases (hP.onExpiry (hP.same (same_watch s _ _ _) h)) fun _ => hP.same (same_watch s _ _ _) h

protected theorem handleStateOpen (h : P s) (a : Acct) : P (handleStateOpen s a) := by
  rw [handleStateOpen_eq]
  exact hP.watchExpiration (hP.same (same_regSpend _ _ _) h) _

protected theorem watchers (h : P s) (a : Acct) (acts : List String) : P (watchers s a acts) := by
  unfold watchers
  -- three optional steps, the last one outermost: `P` holds with or without a step if it holds before it
  refine guard_cases (hP.same (same_regSpend _ _ _) ?before) fun _ => ?before
  refine guard_cases (hP.handleStateOpen ?first a) fun _ => ?first
  exact guard_cases (hP.same (same_regConf _ _ _) h) fun _ => h

protected theorem expiryRearm (h : P s) (a : Acct) (acts : List String) : P (expiryRearm s a acts) :=
  guard_cases (hP.watchExpiration h _) fun _ => h

protected theorem resumeRest (h : P s) (a : Acct) (onRestart : Bool)
    (hpub : ∀ t, Rebroadcasts a onRestart t → P (maybeBroadcast s t)) : P (resumeRest s a onRestart).1 := by
  refine resumeRest_cases (P := fun x => P x.1) s a onRestart (fun _ _ _ => h) fun acts s1 _ hs1 _ => ?_
  refine hP.expiryRearm (hP.watchers ?_ _ _) _ _
  rcases hs1 with rfl | ⟨t, ht, rfl⟩
  · exact h
  · exact hpub t ht

end StoreInv

/-- a store predicate `P` that every entry point of the manager preserves, each field named after the op of `step` that
reaches it: `onSpend` is the write that ends `HandleAccountSpend`, `onResume` the `resumeAccount` of the stored record
(restart, watch-matched, a spend that re-creates the output).  `Q` is what the fields declared here may assume of the
state the handler runs on: `P` itself, or more for a predicate that rests on another invariant (`HandlerInv.and`). -/
structure HandlerInv (P : AState → Prop) (Q : AState → Prop := P) : Prop extends StoreInv P where
  onConf : ∀ {s}, Q s → ∀ height, P (handleConf s height)
  onComplete : ∀ {s}, Q s → P (completeOnly s)
  onSpend : ∀ {s a}, Q s → s.acct = some a → ∀ t height,
    P (write s { a with state := .closed, heightHint := height, latestTx := some t })
  onResume : ∀ {s a}, Q s → s.acct = some a → ∀ onRestart fee f, P (resume s a onRestart false fee f).1
  onModify : ∀ {s}, Q s → ∀ k m, P (modify s k m).1
  onClose : ∀ {s}, Q s → ∀ height t ok sg, P (close s height t ok sg).1
  onDropStage : ∀ {s}, Q s → P { s with staged := none }

theorem HandlerInv.and {P Q : AState → Prop} (hQ : HandlerInv Q) (hP : HandlerInv P fun s => Q s ∧ P s) :
    HandlerInv fun s => Q s ∧ P s where
  same hs h := ⟨hQ.same hs h.1, hP.same hs h.2⟩
  onExpiry h := ⟨hQ.onExpiry h.1, hP.onExpiry h.2⟩
  onConf h height := ⟨hQ.onConf h.1 height, hP.onConf h height⟩
  onComplete h := ⟨hQ.onComplete h.1, hP.onComplete h⟩
  onSpend h ha t height := ⟨hQ.onSpend h.1 ha t height, hP.onSpend h ha t height⟩
  onResume h ha onRestart fee f := ⟨hQ.onResume h.1 ha onRestart fee f, hP.onResume h ha onRestart fee f⟩
  onModify h k m := ⟨hQ.onModify h.1 k m, hP.onModify h k m⟩
  onClose h height t ok sg := ⟨hQ.onClose h.1 height t ok sg, hP.onClose h height t ok sg⟩
  onDropStage h := ⟨hQ.onDropStage h.1, hP.onDropStage h⟩

/-- the handlers run on a state with the store part of `s` (the wrapper in `step` changes the watcher part before the
call; `same` makes `P` hold there and absorbs what the wrapper changes after).  `onInit`, `onStage` and `onRecover` are
not asked of every predicate: the side conditions of the step theorems (`OpOK`, `Op.afterClose`) speak of these ops. -/
protected theorem HandlerInv.step {P : AState → Prop} (hP : HandlerInv P) (s : AState) (op : Op) (h : P s)
    (onInit : ∀ v e ver height f, op = .init v e ver height f → P (initAccount s v e ver height f).1)
    (onStage : ∀ g, op = .stage g → P (stage s g).1)
    (onRecover : ∀ a known, op = .recover a known →
      P (resume (write { s with wallet := known } { a with secret := s.signerSecret })
        { a with secret := s.signerSecret } false true false none).1) :
    P (step s op).1 := by
  have watch (w : Watch) (b : Nat) : P { s with w := w, best := b } := hP.same (same_watch s w b s.nextReg) h
  have post {x : AState} (hx : P x) (w : Watch) : P { x with w := w } := hP.same (same_watch x w x.best x.nextReg) hx
  have spend {s'} (h' : P s') (t : Tx) (height : Nat) : P (handleSpend s' t height).1 :=
    handleSpend_cases (P := fun x => P x.1) s' t height (fun _ => h') (fun _ ha => hP.onSpend h' ha t height)
      (fun _ ha => hP.onSpend (hP.onComplete h') ha t height)
      fun _ ha => hP.onResume (hP.onComplete h') ha false false none
  cases op with
  | init v e ver height f => exact onInit v e ver height f rfl
  | modify k m => exact hP.onModify h k m
  | close height t ok sg => exact hP.onClose h height t ok sg
  | bump => exact (bump_fst s).symm ▸ h
  | conf pos height =>
    simp only [step]
    split
    · exact h
    · exact post (hP.onConf (watch _ _) height) _
  | confDirect height => exact hP.onConf h height
  | spend pos k height =>
    simp only [step]
    split
    · exact h
    · split
      · exact h
      · exact post (spend (watch _ _) _ height) _
  | consumeSpend pos =>
    simp only [step]
    split
    · exact h
    · exact watch _ _
  | spendH t height => exact post (spend h t height) _
  | spendDirect k height =>
    simp only [step]
    split
    · exact h
    · exact spend h _ height
  | block height =>
    simp only [step]
    split
    · split
      · exact hP.onExpiry (watch _ _)
      · exact watch _ _
    · exact watch _ _
  | expiryDirect => exact hP.onExpiry h
  | stage g => exact onStage g rfl
  | completeOnly => exact hP.onComplete h
  | dropStage => exact hP.onDropStage h
  | watchMatched =>
    exact watchMatched_cases (P := fun x => P x.1) s (fun _ => h) fun _ _ ha hs =>
      hP.onResume (hP.same hs h) (hs.acct.trans ha) false false none
  | restart fee f =>
    simp only [step]
    split
    · exact watch _ _
    · exact hP.onResume (watch _ _) ‹_› true fee f
  | recover a known => exact onRecover a known rfl
  | flush => exact watch _ _

end Pool.C08
