import PoolProofs.C07Lemmas
/-! Weight lemmas for C07: the weight the estimator arrives at is the full weight of the transaction actually built.
Both are brought to the closed form `spendWeight`.  In names, `vau` is `valueAfterAccountUpdate` and `owf` is
`OutputWithFee`. -/
namespace Pool.C07
open Pool.Gen.C07

def classLen : ScriptClass → Nat
  | .pubKeyHash => 25 | .scriptHash => 23 | .witnessV0PubKeyHash => 22
  | .witnessV0ScriptHash => 34 | .witnessV1Taproot => 34 | .unsupported => 0

theorem classLen_le (c : ScriptClass) : classLen c ≤ 34 := by
  cases c <;> decide

/-- one branch of `classify`: its test begins with the script length of the class it selects -/
theorem classLen_ite {s : Script} {c : Bool} {k e : ScriptClass} (hk : c = true → s.length = classLen k)
    (he : e ≠ .unsupported → s.length = classLen e) (h : (if c = true then k else e) ≠ .unsupported) :
    s.length = classLen (if c = true then k else e) := by
  by_cases hc : c = true
  · rw [if_pos hc]; exact hk hc
  · rw [if_neg hc] at h ⊢; exact he h

theorem classify_length (s : Script) (h : classify s ≠ .unsupported) : s.length = classLen (classify s) := by
  have len {n : Nat} {b : Bool} (hb : (s.length == n && b) = true) : s.length = n := by
    rw [Bool.and_eq_true, beq_iff_eq] at hb; exact hb.1
  have len3 {n : Nat} {b b' : Bool} (hb : (s.length == n && b && b') = true) : s.length = n := by
    rw [Bool.and_eq_true] at hb; exact len hb.1
  exact classLen_ite len3 (classLen_ite len3 (classLen_ite len (classLen_ite len (classLen_ite len
    (fun hne => absurd rfl hne))))) h

/-- (R) every `case` of the output switch of `valueAfterAccountUpdate` adds exactly the serialised size of an
output of that class (regenerated table, lnd constants) -/
theorem vauSwitch_sizes (c : ScriptClass) {e : String × Nat} (he : vauOutputSwitch.find? (·.1 == c.name) = some e) :
    e.2 = 9 + classLen c := by
  have h : (vauOutputSwitch.find? (·.1 == c.name)).all (fun e => e.2 == 9 + classLen c) = true := by
    cases c <;> decide +kernel
  rw [he] at h
  exact beq_iff_eq.mp h

/-- (R) … and of `OutputWithFee.CloseOutputs`, where moreover EVERY class `ParsePkScript` accepts has a case -/
theorem closeSwitch_sizes (c : ScriptClass) (hc : c ≠ .unsupported) :
    ∃ e, closeOutputSwitch.find? (·.1 == c.name) = some e ∧ e.2.1 = 9 + classLen c ∧ e.2.2 = classLen c := by
  cases c with
  | unsupported => exact absurd rfl hc
  | _ => exact ⟨_, rfl, rfl, rfl⟩

theorem serializeSize_of_len (o : TxOut) (h : o.script.length < 253) : o.serializeSize = 9 + o.script.length := by
  simp [TxOut.serializeSize, varIntSize, h] <;> omega

theorem serializeSize_classified {o : TxOut} (h : classify o.script ≠ .unsupported) :
    o.serializeSize = 9 + classLen (classify o.script) := by
  have hl := classify_length o.script h
  have := classLen_le (classify o.script)
  rw [serializeSize_of_len o (by omega), hl]

theorem foldl_addOutput (t : Twe) (sizes : List Nat) :
    sizes.foldl Twe.addOutput t
      = { t with outputCount := t.outputCount + sizes.length, outputSize := t.outputSize + sizes.sum } := by
  induction sizes generalizing t with
  | nil => rfl
  | cons s ss ih => simp [ih, Twe.addOutput]; omega

/-- the closed form: weight of a transaction whose only input is the account input (witness size `w`) and whose outputs
have the serialised sizes `sizes` (8: version and lock time, 1: input count, 41: the input, 2: marker and flag) -/
def spendWeight (sizes : List Nat) (w : Nat) : Nat := (8 + 1 + 41 + varIntSize sizes.length + sizes.sum) * 4 + 2 + w

theorem estimator_weight (w : Nat) (sizes : List Nat) :
    (sizes.foldl Twe.addOutput (({} : Twe).addWitnessInput w)).weight = spendWeight sizes w := by
  have c1 : BaseTxSize = 8 := by decide
  have c2 : InputSize = 41 := by decide
  have c3 : witnessScaleFactor = 4 := by decide
  have c4 : WitnessHeaderSize = 2 := by decide
  have v1 : varIntSize 1 = 1 := by decide
  simp [spendWeight, foldl_addOutput, Twe.weight, Twe.addWitnessInput, c1, c2, c3, c4, v1]
  omega

theorem strippedSize_single (i : TxIn) (hr : i.redeemLen = 0) (outs : List TxOut) (lock : Nat) :
    (Tx.mk [i] outs lock).strippedSize = 8 + 1 + 41 + varIntSize outs.length + (outs.map TxOut.serializeSize).sum := by
  simp [Tx.strippedSize, hr, varIntSize]

theorem fullWeight_createSpendTx (so : ScriptOf) (a : Account) (outs : List TxOut) (lock w : Nat) :
    fullWeight { createSpendTx so a outs with lockTime := lock } w = spendWeight (outs.map TxOut.serializeSize) w := by
  have hp := sortBy_perm outLt outs
  have c3 : witnessScaleFactor = 4 := by decide
  simp only [fullWeight, createSpendTx, Account.txIn, spendWeight]
  rw [strippedSize_single _ rfl, hp.length_eq, (hp.map _).sum_nat, c3, List.length_map]

theorem vauLoop_ok {t : Twe} {tot : Int} {os : List TxOut} {t' : Twe} {tot' : Int}
    (h : vauLoop t tot os = .ok (t', tot')) :
    t' = (os.map TxOut.serializeSize).foldl Twe.addOutput t ∧ tot' = tot + sumValues os ∧
      ∀ o ∈ os, classify o.script ≠ .unsupported := by
  induction os generalizing t tot with
  | nil => cases h; simp
  | cons o os ih =>
    simp only [vauLoop] at h
    split at h
    · cases h
    · rename_i c hne
      split at h
      · cases h
      · rename_i e he
        obtain ⟨h1, h2, h3⟩ := ih h
        rw [vauSwitch_sizes _ he, ← serializeSize_classified hne] at h1
        exact ⟨h1, by rw [h2, sumValues_cons]; omega, List.forall_mem_cons.mpr ⟨hne, h3⟩⟩

theorem vau_ok {value : Int} {outs : List TxOut} {wt : Nat} {rate v : Int}
    (h : valueAfterAccountUpdate value outs wt rate = .ok v) :
    (MinAccountValue : Int) ≤ v ∧ ∃ w t, witnessSize wt = some w ∧
      vauLoop ((({} : Twe).addWitnessInput w).addOutput baseAccountOutputSize) 0 outs = .ok (t, sumValues outs) ∧
      v = value - sumValues outs - feeForWeight rate t.weight := by
  unfold valueAfterAccountUpdate addBaseWeight at h
  cases hw : witnessSize wt with
  | none => rw [hw] at h; cases h
  | some w =>
    rw [hw] at h
    dsimp only at h
    cases hl : vauLoop ((({} : Twe).addWitnessInput w).addOutput baseAccountOutputSize) 0 outs with
    | error r => rw [hl] at h; cases h
    | ok p =>
      obtain ⟨t, tot⟩ := p
      rw [hl] at h
      obtain ⟨hmin, h⟩ := ite_error_eq_ok.mp h
      cases h
      obtain ⟨_, rfl, _⟩ := vauLoop_ok hl
      rw [Int.zero_add] at hl hmin ⊢
      exact ⟨Int.not_lt.mp hmin, w, t, rfl, hl, rfl⟩

theorem vauLoop_weight {w : Nat} {outs : List TxOut} {t : Twe} {tot : Int}
    (hl : vauLoop ((({} : Twe).addWitnessInput w).addOutput baseAccountOutputSize) 0 outs = .ok (t, tot)) :
    t.weight = spendWeight (43 :: outs.map TxOut.serializeSize) w := by
  rw [(vauLoop_ok hl).1]
  exact estimator_weight w (43 :: outs.map TxOut.serializeSize)

theorem vau_weight_eq {so : ScriptOf} {a : Account} {w : Nat} {outs : List TxOut} {t : Twe} {tot : Int}
    (hl : vauLoop ((({} : Twe).addWitnessInput w).addOutput baseAccountOutputSize) 0 outs = .ok (t, tot))
    (newOut : TxOut) (hlen : newOut.script.length = 34) (lock : Nat) :
    t.weight = fullWeight { createSpendTx so a (newOut :: outs) with lockTime := lock } w := by
  rw [vauLoop_weight hl, fullWeight_createSpendTx, List.map_cons, serializeSize_of_len newOut (by omega), hlen]

theorem owf_close_ok {s : Script} {r value : Int} {wt : Nat} {outs : List TxOut}
    (h : outputWithFeeCloseOutputs s r value wt = .ok outs) :
    ∃ w, witnessSize wt = some w ∧ s.length < 253 ∧
      outs = [⟨value - feeForWeight r (spendWeight [9 + s.length] w), s⟩] := by
  unfold outputWithFeeCloseOutputs at h
  split at h
  · cases h
  · rename_i w hw
    split at h
    · cases h
    · rename_i c hne
      obtain ⟨e, he, he1, _⟩ := closeSwitch_sizes (classify s) hne
      have hlen := classify_length s hne
      have hle := classLen_le (classify s)
      rw [he] at h
      obtain ⟨_, h⟩ := ite_error_eq_ok.mp h
      refine ⟨w, hw, by omega, ?_⟩
      rw [← Except.ok.inj h, he1, ← hlen, ← estimator_weight w [9 + s.length]]
      rfl

end Pool.C07
