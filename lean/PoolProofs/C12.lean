import PoolProofs.C12Lemmas
import PoolProofs.Guard

/-! C12: an order's signature covers all its terms; the terms sent are those signed.
SHA-256 is an arbitrary function `H`: "the digest changes whenever a term changes" is proved as injectivity
of the hashed preimage in the terms of the version (`C12_preimage_injective_partial`), which is the English
claim under collision resistance of SHA-256.  The preimage is built from the `codec.WriteElements` argument
lists regenerated from `order/interfaces.go`, the transmitted fields from the composite literals regenerated
from `auctioneer/client.go`: the `decide` obligations over those tables fail when the source changes. -/
namespace Pool.C12
open Pool.Digest

def askRequired (v : Nat) : List String :=
  ["a.nonce[:]", "uint32(a.Version)", "a.FixedRate", "a.Amt", "a.LeaseDuration", "uint64(a.MaxBatchFeeRate)"] ++
  (if v ≥ Gen.C12.orderVersionNodeTierMinMatch then ["uint32(a.MinUnitsMatch)"] else []) ++
  (if v ≥ Gen.C12.orderVersionChannelType then ["uint8(a.ChannelType)"] else [])

def bidRequired (v : Nat) : List String :=
  ["b.nonce[:]", "uint32(b.Version)", "b.FixedRate", "b.Amt", "b.LeaseDuration", "uint64(b.MaxBatchFeeRate)"] ++
  (if v ≥ Gen.C12.orderVersionNodeTierMinMatch then ["uint32(b.MinNodeTier)", "uint32(b.MinUnitsMatch)"] else []) ++
  (if v ≥ Gen.C12.orderVersionSelfChanBalance then ["uint64(b.SelfChanBalance)"] else []) ++
  (if v ≥ Gen.C12.orderVersionSidecarChannel then ["isSidecar"] else []) ++
  (if v ≥ Gen.C12.orderVersionChannelType then ["uint8(b.ChannelType)"] else [])

def allVersions : List Nat :=
  [Gen.C12.orderVersionDefault, Gen.C12.orderVersionNodeTierMinMatch, Gen.C12.orderVersionLeaseDurationBuckets,
   Gen.C12.orderVersionSelfChanBalance, Gen.C12.orderVersionSidecarChannel, Gen.C12.orderVersionChannelType]

def covers (f : Gen.DigestFn) (required : Nat → List String) : Prop :=
  ∀ v ∈ allVersions, ∃ c ∈ f.cases, v ∈ c.versions ∧ required v ⊆ c.args.map (·.expr)

instance (f : Gen.DigestFn) (required : Nat → List String) : Decidable (covers f required) := by
  unfold covers; exact inferInstance

/-- For every side × every order version 0..5 the `case` of the digest switch handling that version hashes
every term the version defines (`askRequired`, `bidRequired`). -/
theorem C12_required_terms_present :
    covers Gen.C12.askDigest askRequired ∧ covers Gen.C12.bidDigest bidRequired := by decide +kernel

def dummy : Order :=
  { isBid := true, nonce := [], version := 0, state := 0, fixedRate := 0, amt := 0, units := 0,
    unitsUnfulfilled := 0, maxBatchFeeRate := 0, acctKey := [], leaseDuration := 0, minUnitsMatch := 0,
    channelType := 0, auctionType := 0, isPublic := false, minNodeTier := 0, selfChanBalance := 0,
    sidecar := false, unannounced := false, zeroConf := false, announcement := 0, confirmation := 0 }

def argOK (parse : String → Option Term) (a : Gen.DigestArg) : Bool :=
  match parse a.expr with
  | none => false
  | some tm =>
    some (encTerm dummy tm).widthClass == writerWidth Gen.Codec.codecCases a.goType &&
    (tm != .nonce || a.goType == "[32]byte[:]")

def sidecarPre : List String := ["var isSidecar uint8", "if b.SidecarTicket != nil { isSidecar = 1 }"]

def fnOK (parse : String → Option Term) (f : Gen.DigestFn) (tag : String) : Bool :=
  f.head == [] && f.tag == tag &&
  f.cases.all (fun c =>
    -- the only other statements define the sidecar flag, exactly when it is an element
    c.pre == (if c.args.any (·.expr == "isSidecar") then sidecarPre else []) && c.args.all (argOK parse)) &&
  f.dflt == ["error"] && f.tail == ["sha256"]

/-- What the model assumes of the source beyond the tables.  `Ask.Digest` / `Bid.Digest` (facts from the
extractor's symbolic evaluation, independent of how the element lists are assembled): no guard, element list
selected by the order version, every element written with the width `encTerm` gives it, `isSidecar` defined as
`SidecarTicket != nil` exactly where it is an element, unknown version = error, result = SHA-256 of the
written buffer.  `SubmitOrder`: units ↔ satoshis by the base unit, an unmapped channel type / node tier is an
error, an unmapped auction type the zero value.  (Which expression feeds which transmitted field:
`serverOrderMap_eq`, `serverAskMap_eq`, `serverBidMap_eq`.) -/
theorem C12_code_shape_as_modelled :
    fnOK parseAskExpr Gen.C12.askDigest "a.Kit.Version" = true ∧
    fnOK parseBidExpr Gen.C12.bidDigest "b.Kit.Version" = true ∧
    Gen.C12.supplyToSatoshis = ["return btcutil.Amount(uint64(s) * uint64(BaseSupplyUnit))"] ∧
    Gen.C12.supplyFromSats = ["return SupplyUnit(uint64(sats) / uint64(BaseSupplyUnit))"] ∧
    -- no field that carries an order term is assigned after the literals
    Gen.C12.submitFieldAssigns.all (fun a => (parseWField a.1).all opaqueField) = true ∧
    Gen.C12.submitChannelTypeDefaultIsError = true ∧ Gen.C12.marshallNodeTierDefaultIsError = true ∧
    Gen.C12.submitAuctionTypeDefaultIsError = false := by decide +kernel

/-- "The digest changes whenever any term defined for that version changes": two asks (or two bids) whose
`Digest()` hashes the same bytes agree on every term their version defines, so a changed term changes the
hashed bytes and — up to a SHA-256 collision — the digest the trader signs.  `MinMatchFits32` is the cast
guard of `uint32(MinUnitsMatch)`. -/
theorem C12_preimage_injective_partial (o o' : Order) (h : TypeWF o) (h' : TypeWF o')
    (hm : MinMatchFits32 o) (hm' : MinMatchFits32 o') (hside : o.isBid = o'.isBid) (p : Bytes)
    (hp : digestPreimage o = .ok p) (hp' : digestPreimage o' = .ok p) : terms o = terms o' := by
  rw [digestPreimage_eq, ← hside] at hp'
  rw [digestPreimage_eq] at hp
  obtain ⟨hv, hall⟩ := preimageOf_inj (sideLit_start _) (sideLit_exact _) h h' hm hm' hp hp'
  exact terms_eq_of_agree hside hv fun t ht => encTerm_inj h h' (hall t ht)

/-- `C12_preimage_injective_partial` without the cast guard -/
def C12_full_statement : Prop :=
  ∀ (o o' : Order), TypeWF o → TypeWF o' → o.isBid = o'.isBid → ∀ p : Bytes,
    digestPreimage o = .ok p → digestPreimage o' = .ok p → terms o = terms o'

def guardWitness (minUnits : Nat) : Order :=
  { isBid := false, nonce := List.replicate 32 7, version := 2, state := 0, fixedRate := 1000, amt := 500000,
    units := 5, unitsUnfulfilled := 5, maxBatchFeeRate := 253, acctKey := List.replicate 33 2,
    leaseDuration := 2016, minUnitsMatch := minUnits, channelType := 0, auctionType := 0, isPublic := false,
    minNodeTier := 0, selfChanBalance := 0, sidecar := false, unannounced := false, zeroConf := false,
    announcement := 0, confirmation := 0 }

theorem guardWitness_wf (n : Nat) (hn : n < 18446744073709551616) : TypeWF (guardWitness n) := by
  constructor <;> simp [guardWitness, I64] <;> omega

/-- Without the guard the statement is false: `uint32(MinUnitsMatch)` drops the high 32 bits, so minimum
matches 1 and 1 + 2^32 (an amount of ≥ 4.29 million BTC) are signed identically.  Replayed on the Go code
by the `minunits+2^32` changes of the correspondence run (histogram `change/minunits+2^32/same`). -/
theorem C12_full_statement_false : ¬ C12_full_statement := by
  intro hf
  have := hf (guardWitness 1) (guardWitness 4294967297) (guardWitness_wf _ (by decide))
    (guardWitness_wf _ (by decide)) rfl
  rw [digestPreimage_eq, digestPreimage_eq] at this
  exact absurd (this _ rfl rfl) (by decide)

def bookkeepingTerms : List Term := [.state, .units, .unitsUnfulfilled, .minUnitsMatch64, .auctionType]

theorem C12_digest_lists_no_bookkeeping :
    (∀ tbl, askTable = some tbl → ∀ c ∈ tbl, ∀ t ∈ c.2, t ∉ bookkeepingTerms) ∧
    (∀ tbl, bidTable = some tbl → ∀ c ∈ tbl, ∀ t ∈ c.2, t ∉ bookkeepingTerms) := by
  constructor <;> intro tbl ht
  · rw [askTable_eq] at ht; injection ht with ht; subst ht; decide
  · rw [bidTable_eq] at ht; injection ht with ht; subst ht; decide

/-- `o` with every field that is not an order term overwritten -/
def withBookkeeping (o : Order) (state units unfulfilled auctionType ann conf : Nat)
    (acctKey : Bytes) (isPublic un zc : Bool) : Order :=
  { o with state := state, units := units, unitsUnfulfilled := unfulfilled, auctionType := auctionType,
           acctKey := acctKey, isPublic := isPublic, unannounced := un, zeroConf := zc, announcement := ann,
           confirmation := conf }

/-- "…does not depend on mutable bookkeeping": the bytes hashed by `Digest()` — hence the signed digest, for
every hash function — change neither with state, units and unfilled units nor with the other fields that are
not order terms. -/
theorem C12_digest_ignores_bookkeeping (o : Order) (state units unfulfilled auctionType ann conf : Nat)
    (acctKey : Bytes) (isPublic un zc : Bool) :
    digestPreimage (withBookkeeping o state units unfulfilled auctionType ann conf acctKey isPublic un zc) =
    digestPreimage o :=
  digestPreimage_congr ⟨rfl, fun v t ht => by cases t <;> first | rfl | cases ht⟩

/-- "The order transmitted carries exactly the signed terms", as: the signed terms can be recovered from the
request (fields that are sent and not signed exist, by design).  For every order `SubmitOrder` can send
without wrap-around (`Sendable`) the request built from the regenerated literals transmits `RawSig` and the
account key unchanged, and the order rebuilt from the transmitted fields alone (`orderOfWire`) has the terms
of the order that was signed. -/
theorem C12_wire_roundtrip (o : Order) (p : Params) (hs : Sendable o) :
    ∃ d s, toWire o p = .ok (d, s) ∧ wbytes d .orderSig = some p.rawSig ∧
      wbytes d .traderKey = some o.acctKey ∧
      ∃ o', orderOfWire o.isBid d s = some o' ∧ terms o' = terms o := by
  obtain ⟨d, s, h1, h2, h3, o', h4, h5⟩ := wire_roundtrip o p hs
  exact ⟨d, s, h1, h2, h3, o', h4, terms_congr h5⟩

/-- "The digest re-derived from the transmitted fields is the one the account key signed": if `PrepareOrder`
had the signer sign `σ.msg` under key `k` for order `o`, then for every hash function the digest of the order
rebuilt from what `SubmitOrder` transmits is `σ.msg`, and `σ` was made under `k`.  That the transmitted
`OrderSig` is this signature is not in the statement: `SubmitOrder` sends `p.rawSig` as it is
(`C12_wire_roundtrip`), and that `PrepareOrder` returns the signer's output as `RawSig` is not modelled. -/
theorem C12_signed_is_sent (H : Bytes → Bytes) (o : Order) (p : Params) (k : Nat) (σ : Sig)
    (hs : Sendable o) (hsig : prepareOrderSig H o k = .ok σ) :
    σ.signer = k ∧ digest H o = .ok σ.msg ∧
    ∃ d s o', toWire o p = .ok (d, s) ∧ orderOfWire o.isBid d s = some o' ∧ digest H o' = .ok σ.msg := by
  obtain ⟨hk, hd⟩ := prepareOrderSig_ok hsig
  obtain ⟨d, s, h1, _, _, o', h4, h5⟩ := wire_roundtrip o p hs
  exact ⟨hk, hd, d, s, o', h1, h4, by rw [digest, digestPreimage_congr h5]; exact hd⟩

/-- Whatever is already on record: when `PrepareOrder` succeeds, the signature was made under the account key
over the digest of the order THE CALLER PASSED (the object it then gives to `SubmitOrder`), the nonce was
not on record before and is afterwards. -/
theorem C12_prepare_order_signs_argument (H : Bytes → Bytes) (stored stored' : List Bytes) (o : Order)
    (k : Nat) (σ : Sig) (h : prepareOrder H stored o k = (.ok σ, stored')) :
    σ.signer = k ∧ digest H o = .ok σ.msg ∧ o.nonce ∉ stored ∧ stored' = o.nonce :: stored := by
  unfold prepareOrder at h
  cases hs : prepareOrderSig H o k with
  | error e => simp [hs] at h
  | ok τ =>
    simp only [hs] at h
    by_cases hc : o.nonce ∈ stored
    · simp [hc] at h
    · simp only [List.contains_iff_mem, hc, if_false, Prod.mk.injEq, Except.ok.injEq] at h
      obtain ⟨rfl, h2⟩ := h
      obtain ⟨hk, hd⟩ := prepareOrderSig_ok hs
      exact ⟨hk, hd, hc, h2.symm⟩

/-- A nonce that is on record — in whatever state the stored order is, e.g. failed — is refused, nothing is
signed into the result and the database is unchanged (a retry never re-binds to the stored order). -/
theorem C12_prepare_order_refuses_known_nonce (H : Bytes → Bytes) (stored : List Bytes) (o : Order) (k : Nat)
    (hn : o.nonce ∈ stored) : ∃ e, prepareOrder H stored o k = (.error e, stored) := by
  unfold prepareOrder
  cases hs : prepareOrderSig H o k with
  | error e => exact ⟨e, rfl⟩
  | ok τ =>
    exact ⟨.exists, by simp [hn]⟩

/-- Every order `ParseRPCOrder` builds is inside the domain of the theorems above: within the Go types,
minimum match ≥ 1 and < 2^32 (it comes from a uint32 field), `MinUnitsMatch · 100000 < 2^64`, a defined
channel type, and — except in the outbound market, and stated for units < 2^32 since the guard compares with
`uint32(kit.Units)` — minimum match ≤ order units. -/
theorem C12_rpc_orders_in_domain (version lease : Nat) (d : RpcOrder) (sel : Option Nat) (o : Order)
    (hd : RpcWF version lease d) (hsel : ∀ s, sel = some s → s ≤ 2)
    (h : parseRPCOrder version lease d sel = .ok o) :
    TypeWF o ∧ MinMatchFits32 o ∧ 1 ≤ o.minUnitsMatch ∧ o.minUnitsMatch * 100000 < 18446744073709551616 ∧
    o.channelType ≤ 2 ∧ o.minUnitsMatch = d.minUnitsMatch ∧
    (d.auctionType ≠ outboundMarket → o.units < 4294967296 → o.minUnitsMatch ≤ o.units) := by
  rw [parseRPCOrder] at h
  simp only at h
  generalize hU : u64OfInt (wrapI64 ↑d.amt) / base = U at h
  have hUlt : U < 18446744073709551616 := by
    rw [← hU]
    exact Nat.lt_of_le_of_lt (Nat.div_le_self _ _) (u64OfInt_lt _)
  simp only [ite_error_eq_ok] at h
  obtain ⟨hz, hx, h⟩ := h
  split at h
  · cases h
  · rename_i ct hct
    simp only [ite_error_eq_ok] at h
    obtain ⟨-, -, -, -, h⟩ := h
    cases h
    have hmu : d.minUnitsMatch ≠ 0 := by simpa using hz
    have hmu32 := hd.minUnits
    have hct2 : ct ≤ 2 := by
      split at hct
      · cases hct
        cases sel with
        | none => decide
        | some s => exact hsel s rfl
      · obtain ⟨l₁, l₂, e, -⟩ := List.lookup_eq_some_iff.1 hct
        have all : ∀ p ∈ Gen.C12.parseOrderChannelType, p.2 ≤ 2 := by decide
        exact all (d.channelType, ct) (by simp [e])
    refine ⟨?_, hd.minUnits, by show 1 ≤ d.minUnitsMatch; omega, by show d.minUnitsMatch * 100000 < _; omega,
      hct2, rfl, ?_⟩
    · exact { nonce := copyInto_length _ _, version := hd.version, state := by show (0:Nat) < 256; decide,
              fixedRate := hd.rate, amt := wrapI64_range _, units := hUlt, unitsUnfulfilled := hUlt,
              fee := wrapI64_range _, lease := hd.lease,
              minUnits := by show d.minUnitsMatch < _; omega,
              channelType := by show ct < 256; omega, auctionType := hd.auction,
              tier := by show (0:Nat) < 4294967296; decide,
              scb := by show I64 0; unfold I64; decide }
    · intro hne hu
      simp only [bne_iff_ne, ne_eq, Bool.and_eq_true, decide_eq_true_eq, not_and, Nat.not_lt] at hx
      have := hx hne
      show d.minUnitsMatch ≤ U
      have hu' : U < 4294967296 := hu
      omega

/-- The channel-type conversion of `ParseRPCOrder` (in the function or in the helper it hands
`details.ChannelType` to) = what `parseRPCOrder` models: the three defined RPC values map to the three
channel types, exactly the UNKNOWN value (0) has its own clause (selector or peer dependent), any other value is
an error.  (Field assignments and the min-units guards are tied by the byte-exact `parse` correspondence.) -/
theorem C12_parse_rpc_order_shape_as_modelled :
    Gen.C12.parseOrderChannelTypeSpecial.map (·.1) = ["0"] ∧ Gen.C12.parseOrderChannelTypeDefault.length = 1 ∧
    Gen.C12.parseOrderChannelType = [(1, 0), (2, 1), (3, 2)] := by decide

/-- the side-specific fields the RPC server adds to the kit `ParseRPCOrder` returns -/
def withSide (k : Order) (isBid : Bool) (tier : Nat) (scb : Int) (sidecar un zc : Bool) (an cf : Nat) : Order :=
  { k with isBid := isBid, minNodeTier := tier, selfChanBalance := scb, sidecar := sidecar, unannounced := un,
           zeroConf := zc, announcement := an, confirmation := cf }

/-- Injectivity without the cast guard for orders that come through the RPC layer: two asks (bids)
whose kits were built by `ParseRPCOrder` and whose digests hash the same bytes agree on all terms of their
version.  (`C12_preimage_injective_partial` with its guard discharged by `C12_rpc_orders_in_domain`.) -/
theorem C12_rpc_orders_preimage_injective
    (v l : Nat) (d : RpcOrder) (sel : Option Nat) (k : Order) (v' l' : Nat) (d' : RpcOrder) (sel' : Option Nat)
    (k' : Order) (hd : RpcWF v l d) (hd' : RpcWF v' l' d') (hsel : ∀ s, sel = some s → s ≤ 2)
    (hsel' : ∀ s, sel' = some s → s ≤ 2) (hk : parseRPCOrder v l d sel = .ok k)
    (hk' : parseRPCOrder v' l' d' sel' = .ok k')
    (isBid : Bool) (tier tier' : Nat) (scb scb' : Int) (sc sc' un un' zc zc' : Bool) (an an' cf cf' : Nat)
    (ht : tier < 4294967296) (ht' : tier' < 4294967296) (hs : I64 scb) (hs' : I64 scb') (p : Bytes)
    (hp : digestPreimage (withSide k isBid tier scb sc un zc an cf) = .ok p)
    (hp' : digestPreimage (withSide k' isBid tier' scb' sc' un' zc' an' cf') = .ok p) :
    terms (withSide k isBid tier scb sc un zc an cf) = terms (withSide k' isBid tier' scb' sc' un' zc' an' cf') := by
  obtain ⟨w, m, _⟩ := C12_rpc_orders_in_domain v l d sel k hd hsel hk
  obtain ⟨w', m', _⟩ := C12_rpc_orders_in_domain v' l' d' sel' k' hd' hsel' hk'
  exact C12_preimage_injective_partial (withSide k isBid tier scb sc un zc an cf)
    (withSide k' isBid tier' scb' sc' un' zc' an' cf') { w with tier := ht, scb := hs }
    { w' with tier := ht', scb := hs' } m m' rfl p hp hp'

def exBid : Order :=
  { isBid := true, nonce := List.replicate 32 9, version := 5, state := 0, fixedRate := 1234, amt := 700000,
    units := 7, unitsUnfulfilled := 7, maxBatchFeeRate := 300, acctKey := List.replicate 33 3,
    leaseDuration := 2016, minUnitsMatch := 7, channelType := 1, auctionType := 0, isPublic := true,
    minNodeTier := 2, selfChanBalance := 100000, sidecar := true, unannounced := false, zeroConf := false,
    announcement := 0, confirmation := 0 }

def exParams : Params := { rawSig := [1, 2, 3], multiSigKey := [4], nodePubkey := [5] }

theorem exBid_sendable : Sendable exBid := by
  refine ⟨by constructor <;> simp [exBid, I64], by decide, by decide, by decide⟩
example : MinMatchFits32 exBid := by unfold MinMatchFits32; decide
example : (digestPreimage exBid).toOption.isSome := by rw [digestPreimage_eq]; decide
example : ∃ p, digestPreimage exBid = .ok p ∧ digestPreimage { exBid with sidecar := false } ≠ .ok p := by
  rw [digestPreimage_eq, digestPreimage_eq]
  exact ⟨_, rfl, by decide⟩
example : (prepareOrderSig id exBid 4).toOption.isSome := by
  rw [prepareOrderSig, digest, digestPreimage_eq]; decide
example : (prepareOrder id [] exBid 4).1.toOption.isSome ∧ (prepareOrder id [] exBid 4).2 = [exBid.nonce] := by
  rw [prepareOrder, prepareOrderSig, digest, digestPreimage_eq]; decide
example : (prepareOrder id [exBid.nonce] { exBid with fixedRate := 2500 } 4).1 = .error .exists := by
  rw [prepareOrder, prepareOrderSig, digest, digestPreimage_eq]; decide
example : (toWire exBid exParams).toOption.isSome := by
  obtain ⟨d, s, h, _⟩ := C12_wire_roundtrip exBid exParams exBid_sendable
  rw [h]; rfl
/-- an unknown channel type is refused by SubmitOrder before anything is sent -/
example : toWire { exBid with channelType := 9 } exParams = .error .channelType := by
  rw [toWire, serverOrderMap_eq, serverBidMap_eq]; decide
example : digestPreimage (withBookkeeping exBid 3 0 2 1 0 0 [] false true true) = digestPreimage exBid :=
  C12_digest_ignores_bookkeeping ..

def exRpc : RpcOrder :=
  { traderKey := List.replicate 33 2, rateFixed := 1234, amt := 700000, maxBatchFeeRate := 300,
    orderNonce := List.replicate 32 9, minUnitsMatch := 7, channelType := 2, auctionType := 0, isPublic := true,
    allowed := [(33, true)], notAllowed := [] }
example : RpcWF 5 2016 exRpc := by constructor <;> decide
example : (parseRPCOrder 5 2016 exRpc none).toOption.isSome := by decide
example : parseRPCOrder 5 2016 { exRpc with minUnitsMatch := 8 } none = .error .minUnitsExceed := by decide

end Pool.C12
