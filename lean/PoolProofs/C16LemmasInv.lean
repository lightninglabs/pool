import PoolProofs.C16LemmasTrans
/-! C16: the loop invariant `InvA` (in-memory state vs persisted ticket state) and what follows from it.

`InvA` holds at handler boundaries only (a handler persists before it returns its new in-memory state): a handler step
is proved from what it writes (`applyEffs_frame`) and what it returns (`procStep_A`), a crash inside a handler from the
writes alone. -/
namespace Pool.C16

def PSt (n : Nat) : Prop := n = 1 ∨ n = 2 ∨ n = 4 ∨ n = 5 ∨ n = 6
def RSt (n : Nat) : Prop := n = 2 ∨ n = 4 ∨ n = 5 ∨ n = 6

/-- provider, in-memory negotiator state ↦ persisted ticket state: created/offered ↦ offered, registered/ordered ↦
registered, expecting ↦ expecting, canceled ↦ any of these -/
def pRel (cur st : Nat) : Prop :=
  ((cur = 0 ∨ cur = 1) ∧ st = 1) ∨ ((cur = 2 ∨ cur = 3) ∧ st = 2) ∨ (cur = 4 ∧ st = 4) ∨
  (cur = 6 ∧ (st = 1 ∨ st = 2 ∨ st = 4))

/-- offered < registered < ordered < expecting < completed; canceled from every non-terminal state; terminal
states never change -/
def Mono (a b : Nat) : Prop :=
  (isTerminal a = true → b = a) ∧ (isTerminal a = false → a ≤ b ∨ b = sCanceled)

structure InvA (s : Sys) : Prop where
  np : s.panicked = false
  pst : PSt s.p.store.state
  pal : s.p.alive = true → (∃ l, s.p.loc = some l) ∧ pRel s.p.cur s.p.store.state
  rst : RSt s.r.store.state
  ral : s.r.alive = true → (∃ l, s.r.loc = some l) ∧ (s.r.store.state = 2 ∨ s.r.store.state = 4)

theorem InvA_of_parts (s' : Sys) (hnp : s'.panicked = false) (hpst : PSt s'.p.store.state)
    (hpal : s'.p.alive = true → (∃ l, s'.p.loc = some l) ∧ pRel s'.p.cur s'.p.store.state)
    (hrst : RSt s'.r.store.state)
    (hral : s'.r.alive = true → (∃ l, s'.r.loc = some l) ∧ (s'.r.store.state = 2 ∨ s'.r.store.state = 4)) :
    InvA s' := ⟨hnp, hpst, hpal, hrst, hral⟩

theorem getParty_store_state (s : Sys) (prov : Bool) :
    (getParty s prov).store.state = if prov then s.p.store.state else s.r.store.state := by
  cases prov <;> rfl

theorem term_iff (n : Nat) : isTerminal n = true ↔ (n = 5 ∨ n = 6) := by
  simp [isTerminal, terminal_match]

theorem term_false_iff (n : Nat) : isTerminal n = false ↔ ¬(n = 5 ∨ n = 6) := by
  rw [← term_iff, Bool.not_eq_true]

theorem Mono_iff (a b : Nat) :
    Mono a b ↔ ((a = 5 ∨ a = 6) → b = a) ∧ (¬(a = 5 ∨ a = 6) → a ≤ b ∨ b = 6) := by
  unfold Mono; rw [term_iff, term_false_iff]

theorem Mono_refl {a : Nat} : Mono a a := ⟨fun _ => rfl, fun _ => Or.inl (Nat.le_refl a)⟩

theorem Mono_trans {a b c : Nat} (h1 : Mono a b) (h2 : Mono b c) : Mono a c := by
  rw [Mono_iff] at *
  omega

def MonoSys (s s' : Sys) : Prop := Mono s.p.store.state s'.p.store.state ∧ Mono s.r.store.state s'.r.store.state

theorem MonoSys.trans {s s1 s2 : Sys} (h : MonoSys s s1) (h' : MonoSys s1 s2) : MonoSys s s2 :=
  ⟨Mono_trans h.1 h'.1, Mono_trans h.2 h'.2⟩

/-- the persisted states a side ever has -/
def SideSt : Bool → Nat → Prop
  | true => PSt
  | false => RSt

/-- in-memory state vs persisted state of a running negotiator -/
def SideRel : Bool → Nat → Nat → Prop
  | true, cur, st => pRel cur st
  | false, _, st => st = 2 ∨ st = 4

structure PartyA (prov : Bool) (x : Party) : Prop where
  st : SideSt prov x.store.state
  loc : x.alive = true → ∃ l, x.loc = some l
  rel : x.alive = true → SideRel prov x.cur x.store.state

theorem InvA.party {s : Sys} (h : InvA s) (prov : Bool) : PartyA prov (getParty s prov) := by
  cases prov
  · exact ⟨h.rst, fun a => (h.ral a).1, fun a => (h.ral a).2⟩
  · exact ⟨h.pst, fun a => (h.pal a).1, fun a => (h.pal a).2⟩

theorem InvA.of_party {s : Sys} (hnp : s.panicked = false) (h : ∀ prov, PartyA prov (getParty s prov)) : InvA s :=
  ⟨hnp, (h true).st, fun a => ⟨(h true).loc a, (h true).rel a⟩, (h false).st,
    fun a => ⟨(h false).loc a, (h false).rel a⟩⟩

theorem InvA.loc {s : Sys} {prov : Bool} (h : InvA s) (hal : (getParty s prov).alive = true) :
    ∃ l, (getParty s prov).loc = some l := (h.party prov).loc hal

theorem pRel_st {cur st : Nat} (h : pRel cur st) : st = 1 ∨ st = 2 ∨ st = 4 := by
  unfold pRel at h; omega

theorem PartyA_takePkt {prov : Bool} {x : Party} (h : PartyA prov x) : PartyA prov (takePkt x) := by
  rw [takePkt_eq]; exact ⟨h.st, h.loc, h.rel⟩

theorem SideRel_lt {prov : Bool} {cur st : Nat} (h : SideRel prov cur st) : st < 5 := by
  cases prov <;> simp only [SideRel] at h
  · omega
  · have := pRel_st h; omega

theorem PartyA_dead {prov : Bool} {x : Party} (hs : SideSt prov x.store.state) (hd : x.alive = false) :
    PartyA prov x :=
  have hn : ¬x.alive = true := by rw [hd]; exact Bool.false_ne_true
  ⟨hs, fun ha => absurd ha hn, fun ha => absurd ha hn⟩

theorem SideSt_final {prov : Bool} {st : Nat} (h : st = 5 ∨ st = 6) : SideSt prov st := by
  cases prov <;> simp only [SideSt, PSt, RSt] <;> omega

theorem PartyA_restart {prov : Bool} {x : Party} (hs : SideSt prov x.store.state) :
    PartyA prov (restartParty prov x) := by
  unfold restartParty
  split
  · exact PartyA_dead hs rfl
  · rename_i ht
    rw [Bool.not_eq_true, term_false_iff] at ht
    refine ⟨hs, fun _ => ⟨_, rfl⟩, fun _ => ?_⟩
    cases prov <;> simp only [SideSt, PSt, RSt] at hs
    · simp only [SideRel]; omega
    · rcases hs with h | h | h | h | h <;> simp [h] at ht <;> simp [SideRel, pRel, resumeState_eq, h]

structure StepA (s s' : Sys) : Prop where
  inv : InvA s'
  mono : MonoSys s s'

/-- One side moves, satisfies its part again and its persisted state went forward; the rest stays. Every transition is
an instance. -/
theorem StepA.of_side {s s' : Sys} (prov : Bool) (h : InvA s) (hp : s'.panicked = s.panicked)
    (ho : getParty s' (!prov) = getParty s (!prov)) (hy : PartyA prov (getParty s' prov))
    (hm : Mono (getParty s prov).store.state (getParty s' prov).store.state) : StepA s s' := by
  have hz : PartyA (!prov) (getParty s' (!prov)) := ho ▸ h.party (!prov)
  have hn : Mono (getParty s (!prov)).store.state (getParty s' (!prov)).store.state := ho ▸ Mono_refl
  cases prov
  · exact ⟨.of_party (hp.trans h.np) fun q => by cases q <;> assumption, hn, hm⟩
  · exact ⟨.of_party (hp.trans h.np) fun q => by cases q <;> assumption, hm, hn⟩

/-- transitions that only touch mailbox buffers / flags of one side -/
theorem StepA.of_setParty_same {s : Sys} (prov : Bool) {x : Party} (h : InvA s)
    (hst : x.store = (getParty s prov).store) (hcur : x.cur = (getParty s prov).cur)
    (hloc : x.loc = (getParty s prov).loc) (hal : x.alive = true → (getParty s prov).alive = true) :
    StepA s (setParty s prov x) := by
  have hx := h.party prov
  refine .of_side prov h (setParty_panicked ..) (getParty_setParty_other ..) ?_ ?_ <;> rw [getParty_setParty]
  · exact ⟨hst ▸ hx.st, fun ha => hloc ▸ hx.loc (hal ha), fun ha => hst ▸ hcur ▸ hx.rel (hal ha)⟩
  · rw [hst]; exact Mono_refl

theorem pRel_write {cur st w : Nat} (hr : pRel cur st)
    (hw : (cur = sOffered ∧ w = sRegistered) ∨ ((cur = sOrdered ∨ cur = sExpecting) ∧ w = sExpecting)) :
    PSt w ∧ Mono st w := by
  rw [Mono_iff]; unfold pRel at hr; unfold PSt
  simp only [sOffered, sRegistered, sOrdered, sExpecting] at hw
  omega

/-- What the loop invariant needs of a handler step from party `x` to party `x'` with effects `es`: a local ticket is
kept, every write is an allowed state not below the persisted one, and the in-memory state returned fits what was
written (the old state if nothing was). -/
structure HandlerA (prov : Bool) (x x' : Party) (es : List Eff) : Prop where
  store : x'.store = x.store
  loc : ∃ l, x'.loc = some l
  expects : OnlyRecpExpects prov es
  wr : ∀ w ∈ writes es, SideSt prov w ∧ Mono x.store.state w
  rel : ∀ w, w ∈ writes es ∨ writes es = [] ∧ w = x.store.state → SideRel prov x'.cur w

theorem procStep_A {s : Sys} {prov : Bool} {x : Party} {pkt : Ticket} {ox : Option Party} {es : List Eff}
    (hps : procStep s prov x pkt = (ox, es)) (hx : PartyA prov x) (hal : x.alive = true) :
    ∃ x', ox = some x' ∧ HandlerA prov x x' es := by
  obtain ⟨l, hl⟩ := hx.loc hal
  have hrel := hx.rel hal
  cases prov <;> simp only [SideRel] at hrel
  · obtain ⟨o, ho, he⟩ := procStep_ROut s pkt hl
    cases he.symm.trans hps
    have hw : ∀ w ∈ writes o.effs, SideSt false w ∧ Mono x.store.state w := by
      intro w hw
      obtain rfl : w = 4 := ROut_writes ho hw
      exact ⟨.inr (.inl rfl), by rw [Mono_iff]; omega⟩
    cases ho <;>
      exact ⟨_, rfl, rfl, by simp [hl], fun h => Bool.noConfusion h, hw, by simp [writes, SideRel, hrel]⟩
  · obtain ⟨o, ho, he⟩ := procStep_POut s pkt hl
    cases he.symm.trans hps
    have hw : ∀ w ∈ writes o.effs, SideSt true w ∧ Mono x.store.state w :=
      fun w hw => pRel_write hrel (POut_writes ho hw)
    cases ho <;> refine ⟨_, rfl, rfl, ⟨_, rfl⟩, fun _ t ht => by simp at ht, hw, ?_⟩ <;>
      simp [writes, SideRel, hrel]
    -- an error keeps the in-memory state and writes nothing; the five successful outcomes:
    case resend hc _ => simpa [pRel, hc, sOffered] using hrel
    case persist _ hp => exact .inr (.inl ⟨.inl rfl, hp⟩)
    case cancel => exact .inr (.inr (.inr ⟨rfl, pRel_st hrel⟩))
    case submitOk hc _ _ => simpa [pRel, hc, sOrdered] using hrel
    case finalOk => exact .inr (.inr (.inl ⟨rfl, rfl⟩))

theorem stepA_proc {s s' : Sys} {prov : Bool} (h : InvA s) (ha : applyG true s (.proc prov) = some s') :
    StepA s s' := by
  obtain ⟨⟨hal, -⟩, pkt, ox, es, -, hps, rfl⟩ := applyG_proc.1 ha
  have hx := h.party prov
  obtain ⟨x', rfl, hh⟩ := procStep_A hps (PartyA_takePkt hx) (by simpa using hal)
  have fr := applyEffs_frame prov es hh.expects (setParty s prov x')
  -- the persisted state is one of the handler's writes, or without a write the old one
  have hst := fr.store
  have hw := hh.wr
  rw [getParty_setParty, hh.store] at hst
  simp only [takePkt_eq] at hst hw
  refine .of_side prov h (fr.panicked.trans (setParty_panicked ..)) (fr.other.trans (getParty_setParty_other ..))
    ⟨?_, fun _ => ?_, fun _ => ?_⟩ ?_
  · exact hst.elim (fun hm => (hw _ hm).1) fun e => e.2 ▸ hx.st
  · rw [fr.loc, getParty_setParty]; exact hh.loc
  · rw [fr.cur, getParty_setParty]
    exact hh.rel _ (hst.imp_right fun e => ⟨e.1, by rw [e.2, takePkt_eq]⟩)
  · exact hst.elim (fun hm => (hw _ hm).2) fun e => e.2 ▸ Mono_refl

/-- a crash inside a handler: some of its writes happened, the restart recomputes the in-memory state from the store -/
theorem stepA_crash {s s' : Sys} {prov : Bool} {k : Nat} (h : InvA s)
    (ha : applyG true s (.procCrash prov k) = some s') : StepA s s' := by
  obtain ⟨⟨hal, -⟩, pkt, ox, es, -, hps, -, rfl⟩ := applyG_procCrash.1 ha
  have hx := h.party prov
  obtain ⟨x', -, hh⟩ := procStep_A hps (PartyA_takePkt hx) (by simpa using hal)
  have fr := applyEffs_frame prov (es.take k) (fun hp t ht => hh.expects hp t (List.mem_of_mem_take ht)) s
  have hst : SideSt prov (getParty (applyEffs prov s (es.take k)) prov).store.state ∧
      Mono (getParty s prov).store.state (getParty (applyEffs prov s (es.take k)) prov).store.state := by
    rcases fr.store with hm | ⟨-, e⟩
    · simpa using hh.wr _ (writes_take hm)
    · rw [e]; exact ⟨hx.st, Mono_refl⟩
  refine .of_side prov h ((restart_panicked ..).trans fr.panicked) ((getParty_restart_other ..).trans fr.other) ?_ ?_ <;>
    rw [getParty_restart]
  · exact PartyA_restart hst.1
  · rw [restartParty_store]; exact hst.2

theorem finRun_A {s : Sys} {prov : Bool} (st : Nat) (otherSide : Bool) (h : InvA s)
    (hal : (getParty s prov).alive = true) (hst : st = 5 ∨ st = 6) : StepA s (finRun true s prov st otherSide) := by
  obtain ⟨l, hl⟩ := h.loc hal
  have fin := finRun_finalized true st otherSide hl
  refine .of_side prov h fin.panicked fin.other (PartyA_dead (by rw [fin.store]; exact SideSt_final hst) fin.alive) ?_
  have := SideRel_lt ((h.party prov).rel hal)
  rw [fin.store, Mono_iff]; omega

/-- a final state written to the store of a side whose negotiator has ended -/
theorem writeA {s : Sys} (prov : Bool) (t : Ticket) {st : Nat} (h : InvA s)
    (hd : (getParty s prov).alive = false) (hst : st = 5 ∨ st = 6) (hm : Mono (getParty s prov).store.state st) :
    StepA s (setParty s prov { getParty s prov with store := { t with state := st } }) := by
  refine .of_side prov h (setParty_panicked ..) (getParty_setParty_other ..) ?_ ?_ <;> rw [getParty_setParty]
  · exact PartyA_dead (SideSt_final hst) hd
  · exact hm

theorem Mono_final {prov : Bool} {a st : Nat} (ha : SideSt prov a) (hnt : isTerminal a = false) (hst : st = 5 ∨ st = 6) :
    Mono a st := by
  rw [term_false_iff] at hnt; rw [Mono_iff]
  cases prov <;> simp only [SideSt, PSt, RSt] at ha <;> omega

/-- under the loop invariant a running negotiator has its local ticket, so the nil branch of `applyG_cancelRPC` is out -/
theorem InvA.cancelRPC {s s' : Sys} {prov : Bool} (h : InvA s) (ha : applyG true s (.cancelRPC prov) = some s') :
    isTerminal (getParty s prov).store.state = false ∧ ∃ s1,
      ((getParty s prov).alive = false ∧ s1 = s ∨
       (getParty s prov).alive = true ∧ (∃ l, (getParty s prov).loc = some l) ∧
         s1 = finRun true s prov sCanceled false) ∧
      s' = setParty s1 prov { getParty s1 prov with store := { (getParty s prov).store with state := sCanceled } } := by
  obtain ⟨⟨-, hnt, -⟩, ⟨hal, hl, -⟩ | h1⟩ := applyG_cancelRPC.1 ha
  · exact absurd (h.loc hal) (by simp [hl])
  · exact ⟨hnt, h1⟩

theorem stepA (s s' : Sys) (a : Act) (h : InvA s) (ha : applyG true s a = some s') : StepA s s' := by
  cases a with
  | deliver tp i =>
    obtain ⟨m, -, -, rfl⟩ := applyG_deliver.1 ha
    exact StepA.of_setParty_same tp h rfl rfl rfl id
  | proc prov => exact stepA_proc h ha
  | procCrash prov k => exact stepA_crash h ha
  | fin prov =>
    obtain ⟨⟨hal, -⟩, rfl⟩ := applyG_fin.1 ha
    exact finRun_A _ _ h hal (.inr rfl)
  | finalize prov st =>
    obtain ⟨⟨hal, -, -, -, hst⟩, rfl⟩ := applyG_finalize.1 ha
    exact finRun_A _ _ h hal hst
  | stop prov =>
    obtain rfl := applyG_stop.1 ha
    exact StepA.of_setParty_same prov h rfl rfl rfl id
  | quit prov =>
    obtain ⟨-, rfl⟩ := applyG_quit.1 ha
    exact StepA.of_setParty_same prov h rfl rfl rfl (fun hf => by cases hf)
  | restart prov =>
    obtain rfl := applyG_restart.1 ha
    refine .of_side prov h (restart_panicked ..) (getParty_restart_other ..) ?_ ?_ <;> rw [getParty_restart]
    · exact PartyA_restart (h.party prov).st
    · rw [restartParty_store]; exact Mono_refl
  | recvErr prov =>
    obtain ⟨-, rfl⟩ := applyG_recvErr.1 ha
    exact ⟨⟨h.np, h.pst, h.pal, h.rst, h.ral⟩, Mono_refl, Mono_refl⟩
  | cancelRPC prov =>
    obtain ⟨hnt, s1, ⟨hd, rfl⟩ | ⟨hal, ⟨l, hl⟩, rfl⟩, rfl⟩ := h.cancelRPC ha
    · exact writeA prov _ h hd (.inr rfl) (Mono_final (h.party prov).st hnt (.inr rfl))
    · have fin := finRun_finalized true sCanceled false hl
      have hA := finRun_A sCanceled false h hal (.inr rfl)
      have hW := writeA prov (getParty s prov).store hA.inv fin.alive (.inr rfl) (by rw [fin.store]; exact Mono_refl)
      exact ⟨hW.inv, hA.mono.trans hW.mono⟩
  | completeRPC prov =>
    obtain ⟨⟨-, hnt, -⟩, ⟨hal, rfl⟩ | ⟨hd, rfl⟩⟩ := applyG_completeRPC.1 ha
    · exact finRun_A _ _ h hal (.inl rfl)
    · exact writeA prov _ h hd (.inl rfl) (Mono_final (h.party prov).st hnt (.inl rfl))

theorem InvA_init : InvA init := by
  refine ⟨rfl, ?_, ?_, ?_, ?_⟩ <;> simp [init, PSt, RSt, pRel, tOffered, tRegistered]

theorem reachable_InvA (s : Sys) (h : Reachable s) : InvA s := by
  obtain ⟨as, has⟩ := h
  unfold run at has
  rw [finReturns_true] at has
  exact runG_invariant (fun s s' a h ha => (stepA s s' a h ha).inv) as init s InvA_init has

/-! clauses (b), (c), (d) of `C16_cancel_ends_both` -/

theorem cancelRPC_spec {s s' : Sys} {prov : Bool} (hA : InvA s)
    (ha : applyG true s (.cancelRPC prov) = some s') :
    (getParty s' prov).store.state = sCanceled ∧ (getParty s' prov).alive = false ∧
    ((getParty s prov).alive = true → (prov = false ∨ sRegistered ≤ (getParty s prov).cur) →
      ∃ t, t.state = sCanceled ∧ t ∈ (if prov then s'.toR else s'.toP)) := by
  obtain ⟨-, s1, ⟨hd, rfl⟩ | ⟨hal, ⟨l, hl⟩, rfl⟩, rfl⟩ := hA.cancelRPC ha <;> rw [getParty_setParty]
  · exact ⟨rfl, hd, fun hal => by rw [hd] at hal; cases hal⟩
  · have fin := finRun_finalized true sCanceled false hl
    refine ⟨rfl, fin.alive, fun _ hc => ?_⟩
    obtain ⟨t, ht, hm⟩ := fin.notified rfl rfl hc
    exact ⟨t, ht, by cases prov <;> exact hm⟩

theorem proc_cancel_msg {s s' : Sys} {prov : Bool} {pkt : Ticket} (hA : InvA s)
    (hal : (getParty s prov).alive = true) (hn : nextPkt (getParty s prov) = some pkt)
    (hs : pkt.state = sCanceled) (hc : (getParty s prov).cur ≠ sCreated)
    (ha : applyG true s (.proc prov) = some s') :
    (getParty s' prov).finPend = true ∧ (getParty s' prov).cur = sCanceled ∧
    (getParty s' prov).alive = true ∧ (getParty s' prov).store = (getParty s prov).store := by
  obtain ⟨l, hl⟩ := hA.loc hal
  obtain ⟨-, pkt', ox, es, hn', hps, rfl⟩ := applyG_proc.1 ha
  cases hn.symm.trans hn'
  -- the step function returns "canceled" and spawns the finalization; that one effect is run below
  cases prov
  · have ho := cancel_spawn_R s (getParty s false).cur l pkt hs
    rw [procStep_R] at hps
    simp only [recpNext, takePkt_eq, hl, ho] at hps
    cases hps
    simpa [getParty, setParty, applyEffs, applyEff] using hal
  · have ho := cancel_spawn_P s (getParty s true).cur l pkt hs hc
    rw [procStep_P] at hps
    simp only [provNext, takePkt_eq, hl, ho] at hps
    cases hps
    simpa [getParty, setParty, applyEffs, applyEff] using hal

theorem fin_spec {s : Sys} {prov : Bool} (hA : InvA s) (hal : (getParty s prov).alive = true)
    (hf : (getParty s prov).finPend = true) (hlp : (getParty s prov).loopPkt = none) :
    ∃ s', applyG true s (.fin prov) = some s' ∧ (getParty s' prov).store.state = sCanceled ∧
      (getParty s' prov).alive = false := by
  obtain ⟨l, hl⟩ := hA.loc hal
  have fin := finRun_finalized true sCanceled true hl
  exact ⟨_, applyG_fin.2 ⟨⟨hal, hA.np, hf, hlp⟩, rfl⟩, fin.store, fin.alive⟩

end Pool.C16
