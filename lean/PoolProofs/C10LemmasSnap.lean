import PoolProofs.C10LemmasAcct
import PoolProofs.C10LemmasOrder
/-! Snapshot round trip: net addresses, count-prefixed nested lists, the header field list, and the completion
of own orders from the orders bucket. -/
namespace Pool.C10

theorem readHostPort_rt {n : Nat} {mk : Bytes → Nat → Addr} {h : Bytes} {p : Nat} (hl : h.length = n)
    (hp : WFu16 p) : Reads (readHostPort n mk) (h ++ encU16 p) (mk h p) :=
  (Reads.take hl).bind ((readU16_rt hp).map _)

theorem parseAddrs_cons (a : Addr) (h : a.WF) (fuel : Nat) (rest : Bytes) :
    parseAddrs (fuel + 1) (encAddr a ++ rest) = (parseAddrs fuel rest).map (a :: ·) := by
  cases a with
  | unknown pl => exact absurd h id
  | _ ip p =>
    have := fun mk => readHostPort_rt (mk := mk) h.1 h.2 rest
    simp only [List.append_assoc] at this
    simp [encAddr, parseAddrs, this]

theorem encAddr_pos (a : Addr) (h : a.WF) : 0 < (encAddr a).length := by
  cases a <;> simp [encAddr, Addr.WF] at h ⊢

theorem parseAddrs_enc (as : List Addr) (h : ∀ a ∈ as, a.WF) :
    ∀ fuel, (encAddrBody as).length < fuel → parseAddrs fuel (encAddrBody as) = some as := by
  induction as with
  | nil =>
    intro fuel hf
    cases fuel with
    | zero => omega
    | succ f => rfl
  | cons a as ih =>
    intro fuel hf
    have ha := h a List.mem_cons_self
    have hlen : (encAddrBody (a :: as)).length = (encAddr a).length + (encAddrBody as).length := by
      simp [encAddrBody]
    cases fuel with
    | zero => omega
    | succ f =>
      have := encAddr_pos a ha
      show parseAddrs (f + 1) (encAddr a ++ encAddrBody as) = _
      rw [parseAddrs_cons a ha, ih (fun x hx => h x (List.mem_cons_of_mem _ hx)) f (by omega)]
      rfl

theorem readAddrs_rt {as : List Addr} (h : ∀ a ∈ as, a.WF) (hl : (encAddrBody as).length < 2 ^ 16) :
    Reads readAddrs (encAddrs as) as := by
  refine (readU16_rt (show WFu16 _ from hl)).bind ((Reads.take rfl).bind_nil ?_)
  rw [parseAddrs_enc as h _ (Nat.lt_succ_self _)]
  exact .pure_nil as

theorem deserializeMatch_rt {m : Match} (h : m.WF) :
    Reads deserializeMatch (serializeMatch m) { m with order := m.order.baseProj } := by
  obtain ⟨h1, h2, h3, h4, h5, h6, h7⟩ := h
  simp only [serializeMatch, List.append_assoc]
  exact (Reads.take h1).bind <| (Reads.take h2.1).bind <| (order_base_rt m.order h2).bind <|
    (Reads.take h3).bind <| (Reads.take h4).bind <| (readAddrs_rt h5 h6).bind <| (readU64_rt h7).map _

theorem accounts_rt (as : List (Bytes × Account)) (h : ∀ p ∈ as, p.1.length = 33 ∧ p.2.WF)
    (hl : WFu32 as.length) : (serializeAccounts as).ReadBy deserializeAccounts as :=
  (Ser.ReadBy.ok (readU32_rt hl)).append <| .serConcat fun (_, a) hp =>
    (Ser.ReadBy.ok (Reads.take (h _ hp).1)).append ((account_rt a (h _ hp).2).map _)

theorem orders_rt (os : List (Bytes × Order)) (h : ∀ p ∈ os, p.1 = p.2.kit.nonce ∧ p.2.kit.WF)
    (hl : WFu32 os.length) :
    Reads deserializeOrders (serializeOrders os) (os.map fun (n, o) => (n, o.baseProj)) :=
  (readU32_rt hl).bind <| .readN fun (n, o) hp => by
    obtain ⟨h1, h2⟩ := h _ hp
    dsimp only at h1 h2
    subst h1
    exact (Reads.take h2.1).bind ((order_base_rt o h2).map _)

theorem prices_rt (ps : List (Nat × Nat)) (h : ∀ p ∈ ps, WFu32 p.1 ∧ WFu32 p.2) :
    Reads (readN (do let d ← readU32; let p ← readU32; pure (d, p)) ps.length)
      (ps.map fun (d, p) => encU32 d ++ encU32 p).flatten ps :=
  .readN_id fun (_, _) hp => (readU32_rt (h _ hp).1).bind ((readU32_rt (h _ hp).2).map _)

theorem snapshot_head_rt (s : Snapshot) (h : s.WF) :
    Reads (decFields snapTbl (elemList "deserializeLocalBatchSnapshot" 0) ⟨Snapshot.empty, 0⟩)
      (encFields snapTbl (elemList "serializeLocalBatchSnapshot" 0) ⟨s, 0⟩)
      ⟨{ s with clearingPrices := [], accounts := [], orders := [], matched := [] }, 0⟩ := by
  obtain ⟨hv, hid, hfb, hfr, htx, htf, -⟩ := h
  exact .fields_cons rfl rfl ((readU32_rt hv).map _) <|
    .fields_cons rfl rfl ((Reads.take hid).map _) <|
    .fields_cons rfl rfl ((readU32_rt (show WFu32 0 by decide)).map _) <|
    .fields_cons₂ rfl rfl rfl ((readU64_rt hfb).bind ((readU64_rt hfr).map _)) <|
    .fields_cons rfl rfl ((readTx_rt htx).map _) <|
    .fields_cons rfl rfl ((readU64_rt htf).map _) .fields_nil

theorem snapshot_rt (s : Snapshot) (h : s.WF) : (serializeSnapshot s).ReadBy deserializeSnapshot s.proj := by
  have hhead := snapshot_head_rt s h
  obtain ⟨-, -, -, -, -, -, hacc, hal, hord, hol, hm, hml, hp, hpl⟩ := h
  refine (Ser.ReadBy.ok hhead).append <| (accounts_rt _ hacc hal).append <| .ok ?_
  simp only [List.append_assoc]
  refine (orders_rt _ hord hol).bind <| (readU32_rt hml).bind <|
    (Reads.readN fun m hm' => deserializeMatch_rt (hm m hm')).bind ?_
  -- the writer puts 0 into the legacy clearing-price field, so the reader's legacy branch is not taken
  rw [if_neg (Nat.lt_irrefl 0)]
  exact (readU32_rt hpl).bind ((prices_rt _ hp).map _)

/-- `fetchLocalBatchSnapshot`: the base-field projection kept in the snapshot, completed from the order's bucket as
`SubmitOrder` wrote it, is the full order -/
theorem completeOrder_rt (o : Order) (h : o.WF) : completeOrder o.baseProj (some (storeOrder o)) = .ok o [] := by
  have htlv := order_tlv_rt o h o.kit.minUnitsMatch
  unfold completeOrder storeOrder
  simp only [(readU64_rt h.minUnits).whole, htlv]
  cases o with
  | ask k a c => rfl
  | bid k t s tk u z => simp only [Order.readBack, (readU32_rt h.tier).whole]; rfl

end Pool.C10
