import PoolModel.C14
import PoolProofs.DigestLemmas
import PoolProofs.Guard
/-! The regenerated argument lists are evaluated once (`offerTable_eq`, `orderTable_eq`); offer and order digest
are treated together through `digestLit`; what a version covers is `signs`, tied to the clause the version
selects by `digestLit_exact`.  Then one inversion lemma per function of `sidecar/verification.go`, per parameter
check, and for `validateAndSign`. -/
namespace Pool.C14
open Pool.Digest

def offerLit : Table :=
    [([0], [.id, .version, .capacity, .pushAmt, .auto]),
     ([1], [.id, .version, .capacity, .pushAmt, .auto, .unannounced, .zeroConf])]

def orderLit : Table :=
    [([0], [.id, .version, .capacity, .pushAmt, .bidNonce]),
     ([1], [.id, .version, .capacity, .pushAmt, .bidNonce, .unannounced, .zeroConf])]

/-- The `Ticket.OfferDigest` switch regenerated from the Go source compiles to this literal: a changed argument
list fails here. -/
theorem offerTable_eq : offerTable = some offerLit := by decide +kernel

/-- Holds of the repaired source only (/repo 84b1b76): its v1 list hashes the bid nonce. -/
theorem orderTable_eq : orderTable = some orderLit := by decide +kernel

def digestLit (order : Bool) : Table := if order then orderLit else offerLit

theorem offerPreimage_eq (t : Ticket) : offerPreimage t = preimageOf (some (digestLit false)) t := by
  rw [offerPreimage, offerTable_eq]; rfl

theorem orderPreimage_eq (t : Ticket) : orderPreimage t =
    if t.state < stateOrdered || t.order.isNone then .error .digestState
    else preimageOf (some (digestLit true)) t := by
  rw [orderPreimage, orderTable_eq]; rfl

/-- whether version `v` of the offer (order) digest covers the term; `offerTerms` (`orderTerms`) reads
exactly the terms it covers -/
def signs (order : Bool) (v : Nat) : Term → Bool
  | .id | .version | .capacity | .pushAmt => true
  | .auto => !order
  | .bidNonce => order
  | .unannounced | .zeroConf => v ≠ 0
  | .leaseDuration | .state => false

theorem digestLit_exact (order : Bool) : Exact (digestLit order) (signs order) := fun x => by
  cases order <;> cases x <;> decide

theorem digestLit_start (order : Bool) : ∀ c ∈ digestLit order, [Term.id, Term.version] <+: c.2 := by
  cases order <;> decide

def Term.shape : Term → Bool × Nat
  | .id => (true, 8) | .bidNonce => (true, 32) | .capacity | .pushAmt => (false, 8) | .leaseDuration => (false, 4)
  | .version | .auto | .unannounced | .zeroConf | .state => (false, 1)

theorem offer_order_widths : ∀ c ∈ digestLit false, ∀ c' ∈ digestLit true,
    (c.2.map fun x => x.shape.2).sum ≠ (c'.2.map fun x => x.shape.2).sum := by decide

def I64 (a : Int) : Prop := -9223372036854775808 ≤ a ∧ a < 9223372036854775808

/-- what the Go types of `sidecar.Ticket` guarantee: `[8]byte`, `uint8`, `int64`, `[32]byte` -/
structure WF (t : Ticket) : Prop where
  id : t.id.length = 8
  version : t.version < 256
  cap : I64 t.capacity
  push : I64 t.pushAmt
  nonce : ∀ o, t.order = some o → o.bidNonce.length = 32

/-- unannounced / zero-conf flags are terms of the ticket from version 1 on -/
def flagsFrom1 (t : Ticket) : Option (Bool × Bool) :=
  if t.version = 0 then none else some (t.unannounced, t.zeroConf)

structure OfferTerms where
  id : Bytes
  version : Nat
  capacity : Int
  pushAmt : Int
  auto : Bool
  flags : Option (Bool × Bool)
deriving DecidableEq, Repr

structure OrderTerms where
  id : Bytes
  version : Nat
  capacity : Int
  pushAmt : Int
  bidNonce : Option Bytes
  flags : Option (Bool × Bool)
deriving DecidableEq, Repr

/-- the terms the property says an OFFER signature is made for -/
def offerTerms (t : Ticket) : OfferTerms :=
  ⟨t.id, t.version, t.capacity, t.pushAmt, t.auto, flagsFrom1 t⟩

/-- the terms the property says an ORDER signature is made for -/
def orderTerms (t : Ticket) : OrderTerms :=
  ⟨t.id, t.version, t.capacity, t.pushAmt, t.order.map (·.bidNonce), flagsFrom1 t⟩

/-- the value of a term; only used where `encTerm` is defined (`t.Order` is not nil) -/
def encT (t : Ticket) (x : Term) : FV := (encTerm t x).getD (.raw [])

theorem encTerms_ok {t : Ticket} {L : List Term} {fvs : List FV} (h : encTerms t L = some fvs) :
    (∀ x ∈ L, encTerm t x = some (encT t x)) ∧ fvs = L.map (encT t) := by
  induction L generalizing fvs with
  | nil => cases h; simp
  | cons x L ih =>
    unfold encTerms at h
    split at h
    · rename_i a l ha hl
      cases h
      obtain ⟨h1, rfl⟩ := ih hl
      exact ⟨List.forall_mem_cons.2 ⟨by simp [encT, ha], h1⟩, by simp [encT, ha]⟩
    · cases h

theorem encTerms_congr {a b : Ticket} {L : List Term} (h : ∀ x ∈ L, encTerm a x = encTerm b x) :
    encTerms a L = encTerms b L := by
  induction L with
  | nil => rfl
  | cons x L ih => simp only [encTerms, h x (by simp), ih fun x hx => h x (by simp [hx])]

theorem lookupCase_eq (tbl : Table) (v : Nat) : lookupCase tbl v = caseOf tbl v := rfl

theorem preimageOf_congr {tbl : Table} {sg : Nat → Term → Bool} (hex : Exact tbl sg) {a b : Ticket}
    (hv : a.version = b.version) (h : ∀ x, sg b.version x → encTerm a x = encTerm b x) :
    preimageOf (some tbl) a = preimageOf (some tbl) b := by
  simp only [preimageOf, lookupCase_eq, hv]
  cases hl : caseOf tbl b.version with
  | none => rfl
  | some L => simp only [encTerms_congr fun x hx => h x ((hex.caseOf hl x).1 hx)]

/-- `WF` bounds every field a digest signs; `leaseDuration` and `state`, which none signs, it leaves open; the bid
nonce has its length where `encTerm` is defined -/
theorem encT_fits {t : Ticket} (h : WF t) {order : Bool} {v : Nat} {x : Term} (hs : signs order v x)
    (hx : encTerm t x = some (encT t x)) : (encT t x).Fits x.shape := by
  cases x
  case id => exact congrArg _ h.id.symm
  case version => exact ⟨rfl, h.version⟩
  case capacity | pushAmt => exact ⟨rfl, u64OfInt_lt _⟩
  case auto | unannounced | zeroConf => exact ⟨rfl, boolNat_lt _⟩
  case bidNonce =>
    cases ho : t.order with
    | none => simp [encTerm, ho] at hx
    | some o => simp [encT, encTerm, ho, FV.Fits, Term.shape, h.nonce o ho]
  case leaseDuration | state => cases hs

/-- what a digest signs of a well-formed ticket fits its shape, clause by clause -/
theorem clause_fits {order : Bool} {t : Ticket} (h : WF t) {L : List Term}
    (hl : caseOf (digestLit order) t.version = some L) (hd : ∀ x ∈ L, encTerm t x = some (encT t x)) :
    ∀ x ∈ L, (encT t x).Fits x.shape :=
  fun x hx => encT_fits h (((digestLit_exact order).caseOf hl x).1 hx) (hd x hx)

theorem preimageOf_ok {tbl : Table} {t : Ticket} {p : Bytes} (hp : preimageOf (some tbl) t = .ok p) :
    ∃ L, caseOf tbl t.version = some L ∧ (∀ x ∈ L, encTerm t x = some (encT t x)) ∧ p = encAll (L.map (encT t)) := by
  simp only [preimageOf, lookupCase_eq] at hp
  cases hl : caseOf tbl t.version with
  | none => simp [hl] at hp
  | some L =>
    cases he : encTerms t L with
    | none => simp [hl, he] at hp
    | some fvs =>
      simp only [hl, he] at hp
      cases hp
      obtain ⟨h1, rfl⟩ := encTerms_ok he
      exact ⟨L, rfl, h1, rfl⟩

theorem preimageOf_inj {order : Bool} {t t' : Ticket} (h : WF t) (h' : WF t') {p : Bytes}
    (hp : preimageOf (some (digestLit order)) t = .ok p) (hp' : preimageOf (some (digestLit order)) t' = .ok p) :
    t.version = t'.version ∧ ∀ x, signs order t.version x → encTerm t x = encTerm t' x := by
  obtain ⟨L, hl, hd, rfl⟩ := preimageOf_ok hp
  obtain ⟨L', hl', hd', e⟩ := preimageOf_ok hp'
  obtain ⟨hv, hcc, hall⟩ := switch_inj (pre := [Term.id]) (digestLit_start order) (fun e => (FV.num.inj e).2) hl hl'
    (clause_fits h hl hd) (clause_fits h' hl' hd') e
  refine ⟨hv, fun x hx => ?_⟩
  have hx := ((digestLit_exact order).caseOf hl x).2 hx
  rw [hd x hx, hd' x (hcc ▸ hx), hall x hx]

/-- agreement on the fields the offer (`order = false`) or order digest reads -/
structure SameFields (order : Bool) (t t' : Ticket) : Prop where
  id : t.id = t'.id
  capacity : t.capacity = t'.capacity
  pushAmt : t.pushAmt = t'.pushAmt
  flags : flagsFrom1 t = flagsFrom1 t'
  auto : order = false → t.auto = t'.auto
  bidNonce : order = true → t.order.map (·.bidNonce) = t'.order.map (·.bidNonce)

theorem fields_eq_of_agree {order : Bool} {t t' : Ticket} (h : WF t) (h' : WF t') (hv : t.version = t'.version)
    (hall : ∀ x, signs order t.version x → encTerm t x = encTerm t' x) : SameFields order t t' where
  id := by simpa [encTerm] using hall .id rfl
  capacity := u64OfInt_inj h.cap h'.cap (by simpa [encTerm] using hall .capacity rfl)
  pushAmt := u64OfInt_inj h.push h'.push (by simpa [encTerm] using hall .pushAmt rfl)
  flags := by
    unfold flagsFrom1
    rw [← hv]
    split
    · rfl
    · rename_i hv0
      have hu := hall .unannounced (by simp [signs, hv0])
      have hz := hall .zeroConf (by simp [signs, hv0])
      simp only [encTerm, Option.some.injEq, FV.num.injEq, true_and] at hu hz
      rw [boolNat_inj hu, boolNat_inj hz]
  auto := by
    rintro rfl
    exact boolNat_inj (by simpa [encTerm] using hall .auto rfl)
  bidNonce := by
    rintro rfl
    have := hall .bidNonce rfl
    simp only [encTerm] at this
    revert this
    cases t.order <;> cases t'.order <;> simp

theorem orderPreimage_ok {t : Ticket} {p : Bytes} (hp : orderPreimage t = .ok p) :
    ¬ t.state < stateOrdered ∧ t.order.isSome ∧ preimageOf (some (digestLit true)) t = .ok p := by
  rw [orderPreimage_eq] at hp
  split at hp
  · cases hp
  · rename_i hg
    simp only [Bool.or_eq_true, decide_eq_true_eq, not_or, Bool.not_eq_true, Option.isNone_eq_false_iff] at hg
    exact ⟨hg.1, hg.2, hp⟩

theorem offer_ne_order_preimage {t t' : Ticket} (h : WF t) (h' : WF t') {p p' : Bytes}
    (hp : offerPreimage t = .ok p) (hp' : orderPreimage t' = .ok p') : p ≠ p' := by
  rw [offerPreimage_eq] at hp
  obtain ⟨L, hl, hd, rfl⟩ := preimageOf_ok hp
  obtain ⟨L', hl', hd', rfl⟩ := preimageOf_ok (orderPreimage_ok hp').2.2
  have hf := clause_fits h hl hd
  have hf' := clause_fits h' hl' hd'
  obtain ⟨c, hc, -, rfl⟩ := caseOf_mem hl
  obtain ⟨c', hc', -, rfl⟩ := caseOf_mem hl'
  intro e
  apply offer_order_widths c hc c' hc'
  rw [← encAll_length hf, ← encAll_length hf', e]

theorem orderPreimage_sig (t : Ticket) (o : Order) (σ : Option Sig) :
    orderPreimage { t with order := some { o with sig := σ } } = orderPreimage { t with order := some o } := by
  have e : preimageOf (some (digestLit true)) { t with order := some { o with sig := σ } } =
      preimageOf (some (digestLit true)) { t with order := some o } :=
    preimageOf_congr (digestLit_exact true) rfl fun x _ => by cases x <;> rfl
  rw [orderPreimage_eq, orderPreimage_eq, e]
  rfl

theorem verify_iff (pk : Key) (m : Bytes) (σ : Sig) : verify pk m σ = true ↔ σ = ⟨pk, m⟩ := by
  cases σ with
  | mk s msg =>
    simp only [verify, Bool.and_eq_true, beq_iff_eq, Sig.mk.injEq]

theorem same_sig {H : Bytes → Bytes} {pk pk' : Key} {p p' : Bytes} (e : (⟨pk, H p⟩ : Sig) = ⟨pk', H p'⟩) :
    pk = pk' ∧ (p = p' ∨ p ≠ p' ∧ H p = H p') := by
  injection e with e1 e2
  exact ⟨e1, Decidable.or_iff_not_imp_left.2 fun hpp => ⟨hpp, e2⟩⟩

theorem verifyOffer_ok_iff (H : Bytes → Bytes) (t : Ticket) :
    verifyOffer H (some t) = .ok () ↔
      ¬ t.state < stateOffered ∧ ∃ pk p, t.signPubKey = some pk ∧ offerPreimage t = .ok p ∧
        t.sigOffer = some ⟨pk, H p⟩ := by
  rw [verifyOffer, offerDigest]
  by_cases hs : t.state < stateOffered
  · simp [hs]
  · cases hk : t.signPubKey <;> cases hg : t.sigOffer <;> cases hp : offerPreimage t <;>
      simp [hs, Except.map, verify_iff]

theorem verifyOrder_ok_iff (H : Bytes → Bytes) (t : Ticket) :
    verifyOrder H (some t) = .ok () ↔
      ¬ t.state < stateOrdered ∧ t.sigOffer.isSome ∧
      ∃ pk o p, t.signPubKey = some pk ∧ t.order = some o ∧ o.bidNonce ≠ zeroNonce ∧
        orderPreimage t = .ok p ∧ o.sig = some ⟨pk, H p⟩ := by
  rw [verifyOrder, orderDigest]
  by_cases hs : t.state < stateOrdered
  · simp [hs]
  · rcases t.signPubKey with _ | pk <;> rcases t.sigOffer with _ | σo <;> rcases t.order with _ | o <;> simp [hs]
    cases hsg : o.sig <;> cases hp : orderPreimage t <;> by_cases hn : o.bidNonce = zeroNonce <;>
      simp [hn, Except.map, verify_iff]

theorem withNonce_nonce (o? : Option Order) (n : Bytes) : (withNonce o? n).bidNonce = n := by
  cases o? <;> rfl

theorem signOrder_ok {H : Bytes → Bytes} {t t' : Ticket} {nonce : Bytes} {k : Key}
    (hs : signOrder H (some t) nonce k = (some t', none)) :
    ¬ t.state < stateRegistered ∧ t.signPubKey.isSome ∧ t.sigOffer.isSome ∧
    ∃ p, orderPreimage { t with order := some (withNonce t.order nonce), state := stateOrdered } = .ok p ∧
      t' = { t with state := stateOrdered,
                    order := some { withNonce t.order nonce with sig := some ⟨k, H p⟩ } } := by
  rw [signOrder] at hs
  obtain ⟨h1, hs⟩ := of_ite_eq (by simp) hs
  obtain ⟨h2, hs⟩ := of_ite_eq (by simp) hs
  extract_lets o t1 at hs
  rw [orderDigest] at hs
  cases hp : orderPreimage t1 with
  | error e => rw [hp] at hs; simp [Except.map] at hs
  | ok p =>
    rw [hp] at hs
    injection hs with hs
    injection hs with hs
    simp only [Bool.or_eq_true, not_or, Bool.not_eq_true, Option.isNone_eq_false_iff] at h2
    exact ⟨h1, h2.1, h2.2, p, rfl, hs.symm⟩

theorem signOrder_some (H : Bytes → Bytes) (t : Ticket) (nonce : Bytes) (k : Key) :
    ∃ t' e, signOrder H (some t) nonce k = (some t', e) := by
  rw [signOrder]
  split
  · exact ⟨_, _, rfl⟩
  · split
    · exact ⟨_, _, rfl⟩
    · extract_lets o t1
      cases orderDigest H t1 <;> exact ⟨_, _, rfl⟩

theorem signOffer_ok {H : Bytes → Bytes} {t t' : Ticket} {k : Key}
    (hs : signOffer H (some t) k = .ok t') :
    ¬ t.state < stateOffered ∧ t.signPubKey.isSome ∧ t.sigOffer = none ∧
    ∃ p, offerPreimage t = .ok p ∧ t' = { t with sigOffer := some ⟨k, H p⟩ } := by
  rw [signOffer] at hs
  obtain ⟨h1, hs⟩ := of_ite_eq (by simp) hs
  obtain ⟨h2, hs⟩ := of_ite_eq (by simp) hs
  rw [offerDigest] at hs
  cases hp : offerPreimage t with
  | error e => rw [hp] at hs; cases hs
  | ok p =>
    rw [hp] at hs
    cases hs
    simp only [Bool.or_eq_true, not_or, Bool.not_eq_true, Option.isNone_eq_false_iff,
      Option.isSome_eq_false_iff] at h2
    exact ⟨h1, h2.1, Option.isNone_iff_eq_none.1 h2.2, p, rfl, rfl⟩

theorem checkOfferParamsForOrder_none {a : Nat} {t : Ticket} {amt : Int} {mu : Nat}
    (h : checkOfferParamsForOrder a t amt mu = none) :
    a = inbound ∧ t.capacity ≠ 0 ∧ t.capacity % baseUnit = 0 ∧ t.pushAmt ≤ t.capacity ∧ t.capacity = amt ∧
    t.capacity = wrapI64 ((mu : Int) * baseUnit) := by
  unfold checkOfferParamsForOrder at h
  obtain ⟨ha, h⟩ := of_ite_eq (by simp) h
  have ha : a = inbound := by simpa using ha
  subst ha
  cases hp : checkOfferParams inbound t.capacity t.pushAmt baseUnit with
  | some e => simp [hp] at h
  | none =>
    simp only [hp] at h
    obtain ⟨h1, h⟩ := of_ite_eq (by simp) h
    obtain ⟨h2, -⟩ := of_ite_eq (by simp) h
    unfold checkOfferParams at hp
    obtain ⟨h3, hp⟩ := of_ite_eq (by simp) hp
    obtain ⟨h4, -⟩ := of_ite_eq (by simp) hp
    simp only [bne_iff_ne, ne_eq, Decidable.not_not, Bool.or_eq_true, beq_iff_eq, not_or, BEq.rfl, Bool.true_and,
      decide_eq_true_eq, Int.not_lt] at h1 h2 h3 h4
    exact ⟨rfl, h3.1, h3.2, h4, h1, h2⟩

theorem checkOfferMatchesBid_none {t : Ticket} {bid : BidTerms} (h : checkOfferMatchesBid t bid = none) :
    (t.leaseDuration = 0 ∨ t.leaseDuration = bid.leaseDuration) ∧ t.pushAmt = bid.selfChanBalance ∧
    t.unannounced = bid.unannounced ∧ t.zeroConf = bid.zeroConf := by
  unfold checkOfferMatchesBid at h
  obtain ⟨h1, h⟩ := of_ite_eq (by simp) h
  obtain ⟨h2, h⟩ := of_ite_eq (by simp) h
  obtain ⟨h3, h⟩ := of_ite_eq (by simp) h
  obtain ⟨h4, -⟩ := of_ite_eq (by simp) h
  simp only [bne_iff_ne, ne_eq, Bool.and_eq_true, not_and, Decidable.not_not] at h1 h2 h3 h4
  exact ⟨Decidable.or_iff_not_imp_left.2 h1, h2, h3, h4⟩

/-- the checks of `validateAndSignTicketForOrder`, each passed -/
structure Validated (H : Bytes → Bytes) (t t' : Ticket) (bid : BidTerms) (acctKey k : Key) : Prop where
  state : t.state = stateRegistered
  recipient : ∃ r nk mk, t.recipient = some r ∧ r.nodeKey = some nk ∧ r.multiSigKey = some mk
  offer : verifyOffer H (some t) = .ok ()
  ownKey : t.signPubKey = some acctKey
  params : checkOfferParamsForOrder bid.auctionType t bid.amt bid.minUnitsMatch = none
  matchesBid : checkOfferMatchesBid t bid = none
  signed : signOrder H (some t) bid.nonce k = (some t', none)

theorem validateAndSign_ok {H : Bytes → Bytes} {t t' : Ticket} {bid : BidTerms} {acctKey k : Key}
    (hok : validateAndSign H t bid acctKey k = (t', none)) : Validated H t t' bid acctKey k := by
  unfold validateAndSign at hok
  obtain ⟨h1, hok⟩ := of_ite_eq (by simp) hok
  cases hr : t.recipient with
  | none => simp [hr] at hok
  | some r =>
    simp only [hr] at hok
    obtain ⟨h2, hok⟩ := of_ite_eq (by simp) hok
    cases hv : verifyOffer H (some t) with
    | error e => simp [hv] at hok
    | ok u =>
      simp only [hv] at hok
      obtain ⟨hk, hok⟩ := of_ite_eq (by simp) hok
      cases hc : checkOfferParamsForOrder bid.auctionType t bid.amt bid.minUnitsMatch with
      | some e => simp [hc] at hok
      | none =>
        cases hmb : checkOfferMatchesBid t bid with
        | some e => simp [hc, hmb] at hok
        | none =>
          obtain ⟨t2, e, hso⟩ := signOrder_some H t bid.nonce k
          simp only [hc, hmb, hso] at hok
          cases hok
          simp only [bne_iff_ne, ne_eq, Decidable.not_not, Bool.or_eq_true, not_or, Bool.not_eq_true,
            Option.isNone_eq_false_iff, Option.isSome_iff_exists] at h1 h2 hk
          obtain ⟨⟨nk, hnk⟩, mk, hmk⟩ := h2
          exact { state := h1, recipient := ⟨r, nk, mk, hr, hnk, hmk⟩, offer := hv, ownKey := hk, params := hc,
                  matchesBid := hmb, signed := hso }

end Pool.C14
