import PoolProofs.C15Lemmas
import PoolProofs.Guard
/-! The string form of a ticket (sidecar/codec.go): base58 `Decode (Encode b) = b`, and `DecodeString` with its
slice expressions resolved. -/
namespace Pool.C15
open Pool.Dec

/-- the payload and checksum slices `DecodeString` takes from the base58-decoded bytes -/
def payloadOf (raw : Bytes) : Bytes := (raw.take (raw.length - 4)).drop 1
def checksumOf (raw : Bytes) : Bytes := raw.drop (raw.length - 4)
/-- first `checksumLen` (= 4) bytes of the hash of prefix ‖ 0 ‖ payload -/
def chk (H : Bytes → Bytes) (payload : Bytes) : Bytes := (H (checksumInput payload)).take 4

end Pool.C15

namespace Pool.Dec
open Pool.Gen.C15 Pool.C15

theorem b58Index_char : ∀ d, d < 58 → b58Index (b58Char d) = some d := by decide +kernel

theorem b58Index_lt (c : UInt8) (d : Nat) (h : b58Index c = some d) : d < 58 := by
  unfold b58Index at h
  -- keep the 58-character literal out of the terms that `split` and `cases` go through
  generalize List.idxOf c b58Alphabet = i at h
  dsimp only at h
  split at h
  · cases h; assumption
  · cases h

theorem b58Char_ne_zero (d : Nat) (h0 : 0 < d) (hd : d < 58) : b58Char d ≠ b58Char 0 := by
  intro h
  have := b58Index_char d hd
  rw [h, b58Index_char 0 (by omega)] at this
  cases this; omega

/-- base-58 digit values of `n`, most significant first -/
def valsF : Nat → Nat → List Nat
  | 0, _ => []
  | fuel + 1, n => if n = 0 then [] else valsF fuel (n / 58) ++ [n % 58]

theorem natDigits58F_eq (fuel n : Nat) : natDigits58F fuel n = (valsF fuel n).map b58Char := by
  fun_induction valsF fuel n with
  | case1 => rfl
  | case2 => simp [natDigits58F]
  | case3 fuel n h ih => simp [natDigits58F, h, ih]

theorem valsF_lt (fuel n : Nat) : ∀ d ∈ valsF fuel n, d < 58 := by
  fun_induction valsF fuel n with
  | case3 fuel n h ih =>
    intro d hd
    rcases List.mem_append.1 hd with hd | hd
    · exact ih d hd
    · simp at hd; subst hd; exact Nat.mod_lt _ (by omega)
  | _ => nofun

theorem digitsValue_valsF (fuel n : Nat) (h : n ≤ fuel) : digitsValue (valsF fuel n) = n := by
  unfold digitsValue
  fun_induction valsF fuel n with
  | case1 => exact (Nat.le_zero.1 h).symm
  | case2 => rfl
  | case3 fuel n h0 ih =>
    rw [List.foldl_append, ih (by omega), List.foldl_cons, List.foldl_nil]
    omega

theorem valsF_head (fuel n : Nat) (h : n ≤ fuel) : (valsF fuel n).head? ≠ some 0 := by
  fun_induction valsF fuel n with
  | case3 fuel n h0 ih =>
    have hlt : n / 58 ≤ fuel := by omega
    cases hv : valsF fuel (n / 58) with
    | cons d ds => rw [hv] at ih; simpa using ih hlt
    | nil =>
      -- no higher digit: `n / 58` is the value of no digits, so the only digit is `n` itself
      have : digitsValue [] = n / 58 := hv ▸ digitsValue_valsF fuel (n / 58) hlt
      have : digitsValue [] = 0 := rfl
      simp only [List.nil_append, List.head?_cons, ne_eq, Option.some.injEq]
      omega
  | _ => simp

theorem b58Digits_map (ds : List Nat) (h : ∀ d ∈ ds, d < 58) : b58Digits (ds.map b58Char) = some ds := by
  induction ds with
  | nil => rfl
  | cons d ds ih =>
    simp only [List.map_cons, b58Digits]
    rw [b58Index_char d (h d (by simp)), ih (fun x hx => h x (by simp [hx]))]

theorem b58Digits_ones (z : Nat) (rest : Bytes) :
    b58Digits (List.replicate z (b58Char 0) ++ rest) = (b58Digits rest).map (List.replicate z 0 ++ ·) := by
  induction z with
  | zero => simp
  | succ z ih =>
    simp only [List.replicate_succ, List.cons_append, b58Digits]
    rw [b58Index_char 0 (by omega), ih]
    cases b58Digits rest <;> rfl

theorem b58Digits_spec (s : Bytes) (ds : List Nat) (h : b58Digits s = some ds) :
    ds.length = s.length ∧ ∀ d ∈ ds, d < 58 := by
  revert h
  fun_induction b58Digits s generalizing ds with
  | case1 => intro h; cases h; simp
  | case2 c cs d ds' hds hd ih =>
    intro h; cases h
    obtain ⟨hl, hlt⟩ := ih ds' hds
    exact ⟨by simp [hl], List.forall_mem_cons.2 ⟨b58Index_lt c d hd, hlt⟩⟩
  | case3 => nofun

theorem digitsValue_lt (ds : List Nat) (h : ∀ d ∈ ds, d < 58) : digitsValue ds < 58 ^ ds.length :=
  foldl_radix_lt 58 id ds h

theorem digitsValue_zeros (z : Nat) (ds : List Nat) : digitsValue (List.replicate z 0 ++ ds) = digitsValue ds :=
  foldl_radix_zeros 58 id 0 rfl z ds

theorem leadingCount_replicate (c : UInt8) (z : Nat) (rest : Bytes) :
    leadingCount c (List.replicate z c ++ rest) = z + leadingCount c rest := by
  induction z with
  | zero => simp
  | succ z ih => simp [List.replicate_succ, leadingCount, ih]; omega

theorem split_leading (c : UInt8) (l : Bytes) :
    l = List.replicate (leadingCount c l) c ++ l.drop (leadingCount c l) := by
  fun_induction leadingCount c l with
  | case2 xs ih => simp only [List.replicate_succ, List.cons_append, List.drop_succ_cons]; rw [← ih]
  | _ => rfl

theorem drop_leading_head (c : UInt8) (l : Bytes) : (l.drop (leadingCount c l)).head? ≠ some c := by
  fun_induction leadingCount c l with
  | case1 => simp
  | case2 xs ih => simpa using ih
  | case3 x xs h => simpa using h

theorem leadingCount_eq_zero (c : UInt8) (l : Bytes) (h : l.head? ≠ some c) : leadingCount c l = 0 := by
  cases l with
  | nil => rfl
  | cons x xs => simp [leadingCount, show x ≠ c by simpa using h]

theorem beNat_pos {b : Bytes} (hne : b ≠ []) (h : b.head? ≠ some 0) : 0 < beNat b := by
  obtain ⟨x, xs, rfl⟩ := List.exists_cons_of_ne_nil hne
  rw [show x :: xs = [x] ++ xs from rfl, beNat_append, beNat_single]
  have hx : 0 < x.toNat := Nat.pos_of_ne_zero fun h0 => h (by simp [← UInt8.toNat_inj, h0])
  have := Nat.mul_pos hx (Nat.pow_pos (n := xs.length) (show 0 < 256 by omega))
  omega

theorem natBytesF_beNat : ∀ (f : Nat) (b : Bytes), b.head? ≠ some 0 → beNat b < 256 ^ f →
    natBytesF f (beNat b) = b := by
  intro f
  induction f with
  | zero =>
    intro b hh hf
    cases b with
    | nil => rfl
    | cons x xs => have := beNat_pos (List.cons_ne_nil x xs) hh; simp at hf; omega
  | succ f ih =>
    intro b hh hf
    rcases List.eq_nil_or_concat b with rfl | ⟨init, x, rfl⟩
    · rfl
    · rw [List.concat_eq_append] at *
      have hval : beNat (init ++ [x]) = beNat init * 256 + x.toNat := by
        rw [beNat_append, beNat_single]; simp
      have hx : x.toNat < 256 := x.toNat_lt
      have hpos := beNat_pos (by simp) hh
      have hinit : init.head? ≠ some 0 := fun h => hh (by simp [List.head?_append, h])
      rw [natBytesF, if_neg (by omega), hval, show (beNat init * 256 + x.toNat) / 256 = beNat init by omega,
        show (beNat init * 256 + x.toNat) % 256 = x.toNat by omega,
        ih init hinit (by rw [Nat.pow_succ, hval] at hf; omega)]
      simp

theorem natBytesF_length (f n k : Nat) (h : n < 256 ^ k) : (natBytesF f n).length ≤ k := by
  fun_induction natBytesF f n generalizing k with
  | case3 f n h0 ih =>
    cases k with
    | zero => simp at h; omega
    | succ k =>
      have := ih k (Nat.div_lt_of_lt_mul (by rw [Nat.pow_succ] at h; omega))
      simp only [List.length_append, List.length_cons, List.length_nil]
      omega
  | _ => simp

theorem natBytes_beNat (b : Bytes) : natBytes (beNat b) = b.drop (leadingCount 0 b) := by
  have hb : beNat b = beNat (b.drop (leadingCount 0 b)) := by
    conv => lhs; rw [split_leading 0 b]
    exact beNat_zeros _ _
  unfold natBytes
  rw [hb]
  exact natBytesF_beNat _ _ (drop_leading_head 0 b) (Nat.lt_pow_self (by omega))

/-- `hm`: the `make` of `Decode` asks for exactly `len b` bytes. -/
theorem b58_roundtrip (m : Nat) (b : Bytes) (hm : b.length ≤ m) : b58Decode m (b58Encode b) = .ok b := by
  unfold b58Decode b58Encode natDigits58
  rw [natDigits58F_eq]
  have hlt := valsF_lt (beNat b) (beNat b)
  rw [b58Digits_ones, b58Digits_map _ hlt]
  simp only [Option.map_some]
  rw [digitsValue_zeros, digitsValue_valsF _ _ (Nat.le_refl _), natBytes_beNat, leadingCount_replicate,
    leadingCount_eq_zero (b58Char 0) (List.map b58Char _), Nat.add_zero]
  · have hsplit := split_leading 0 b
    have hlen : leadingCount 0 b + (b.drop (leadingCount 0 b)).length = b.length := by
      conv => rhs; rw [hsplit]
      simp
    rw [alloc_ok (by omega)]
    simp only
    rw [← hsplit]
  · -- the first base-58 digit of a non-zero number is not `0`, so its character is not `'1'`
    have hh := valsF_head (beNat b) (beNat b) (Nat.le_refl _)
    cases hv : valsF (beNat b) (beNat b) with
    | nil => simp
    | cons d ds =>
      rw [hv] at hh hlt
      have hd0 : 0 < d := by simp at hh; omega
      simpa using b58Char_ne_zero d hd0 (hlt d (by simp))

theorem prefix_len : prefixBytes.length = 7 := by decide
theorem encVersion_len : encVersion.length = 1 := by decide

/-- the guard lemmas at a test that returns an error, `if c { return err }` -/
theorem Outcome.ite_err_eq_ok {α : Type} {c : Prop} [Decidable c] {e : Err} {x : Outcome α} {a : α} :
    (if c then .err e else x) = .ok a ↔ ¬ c ∧ x = .ok a :=
  ite_eq_iff_of_ne nofun

theorem Outcome.ite_err_ne_panic {α : Type} {c : Prop} [Decidable c] {e : Err} {x : Outcome α} (h : x ≠ .panic) :
    (if c then .err e else x) ≠ .panic :=
  guard_cases (P := (· ≠ Outcome.panic)) nofun fun _ => h

/-- `DecodeString` with the slice expressions resolved (none of them can panic). -/
theorem decodeString_eq (H : Bytes → Bytes) (hH : ∀ x, 4 ≤ (H x).length) (cfg : Cfg) (s : Bytes) :
    decodeString H cfg s =
      if s.length < 7 then .err .pfx else
      b58Decode cfg.maxAlloc (s.drop 7) >>= fun raw =>
        if raw.length < 5 then .err .length else
        if s.take 7 ≠ prefixBytes then .err .pfx else
        if checksumOf raw ≠ chk H (payloadOf raw) then .err .checksum else
        deserializeTicket cfg (payloadOf raw) := by
  unfold decodeString checksumOf chk payloadOf
  simp only [prefix_len, encVersion_len, checksumLen]
  by_cases hl : s.length < 7
  · rw [if_pos hl, if_pos hl]
  · rw [if_neg hl, if_neg hl, slice_ok s 7 s.length (by omega), List.take_length]
    simp only
    generalize b58Decode cfg.maxAlloc (List.drop 7 s) = r
    cases r with
    | err e => rfl
    | panic => rfl
    | ok raw =>
      simp only [Outcome.bind_ok]
      by_cases hr : raw.length < 5
      · simp only [hr, reduceIte]
      · simp only [hr, slice_ok s 0 7 (by omega), List.drop_zero, reduceIte]
        by_cases hp : List.take 7 s ≠ prefixBytes
        · simp only [if_pos hp]
        · have e1 : 1 + (raw.length - 4 - 1) = raw.length - 4 := by omega
          simp only [if_neg hp, slice_ok raw 1 (raw.length - 4) (by omega),
            slice_ok raw (raw.length - 4) raw.length (by omega), slice_ok _ 0 4 ⟨Nat.zero_le _, hH _⟩, e1,
            List.take_length, List.drop_zero]

theorem accepted_raw (H : Bytes → Bytes) (hH : ∀ x, 4 ≤ (H x).length) (cfg : Cfg) {s raw : Bytes} {t : Ticket}
    (h : decodeString H cfg s = .ok t) (hr : b58Decode cfg.maxAlloc (s.drop 7) = .ok raw) :
    checksumOf raw = chk H (payloadOf raw) ∧ deserializeTicket cfg (payloadOf raw) = .ok t := by
  rw [decodeString_eq H hH, hr] at h
  simp only [Outcome.bind_ok, Outcome.ite_err_eq_ok, ne_eq, Decidable.not_not] at h
  exact h.2.2.2

end Pool.Dec
