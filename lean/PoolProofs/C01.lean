import PoolProofs.BatchPerm
import PoolProofs.BatchParse
/-! C01 — an accepted batch honours each order's price, size and counterparty terms.  About the model of
`ParseRPCBatch` + `manager.OrderMatchValidate` (`PoolModel/Batch.lean`); the theorems hold for both the code as found
and the repaired code (`rules` arbitrary) and for every value of the external functions (premium, scripts). -/
namespace Pool.C01
open Pool.Batch

/-- the uint32 wrap-around of `hint-3` / `hint+3` can only reject: acceptance implies the integer window -/
theorem C01_height_window (best hint : UInt32) (h : heightOk best hint = true) :
    hint.toNat ≤ best.toNat + 3 ∧ best.toNat ≤ hint.toNat + 3 := by
  unfold heightOk at h
  have hp : (UInt32.ofNat Pool.Gen.heightHintPadding).toNat = 3 := by decide
  simp only [Bool.not_eq_true', Bool.or_eq_false_iff, decide_eq_false_iff_not, UInt32.lt_iff_toNat_lt,
    UInt32.toNat_sub, UInt32.toNat_add, hp] at h
  have := hint.toNat_lt
  omega

/-- **C01.** Whenever `OrderMatchValidate` accepts a proposal, the proposal honours the terms of every one of
the trader's matched orders; a batch of another protocol version or more than three blocks away is never
accepted.  (`WireRanges`: matched units are uint32 values as on the wire.) -/
theorem C01_accept_honours_terms (env : Env) (rules : Rules) (b : Batch) (best : UInt32) (pending : Option String)
    (st : Tallies) (hw : WireRanges b)
    (h : (orderMatchValidate env rules b best pending).1 = .ok st) : HonoursTerms env b best := by
  obtain ⟨hv, hnf⟩ := orderMatchValidate_eq_ok.mp h
  have hacc := Accepted.of_verify hv
  refine ⟨hacc.version, C01_height_window _ _ hacc.height, fun nm hnm => ?_⟩
  obtain ⟨o, ho, _, hok⟩ := hacc.orders nm hnm
  obtain ⟨o', ho', hperm⟩ := nodeFilter_eq_ok.mp hnf nm hnm
  cases ho.symm.trans ho'
  obtain ⟨hlen, hunits⟩ := hw nm hnm
  have hsum : foldU 0 nm.2 = totalUnits nm.2 := by
    rw [foldU_eq nm.2 0 hunits (by omega)]; simp [totalUnits]
  obtain ⟨hcp, hover, hunder⟩ := orderChecks_ok hok.checks
  -- `outboundMarket` of the spec and the regenerated `btcOutboundLiquidity` are the same numeral
  refine ⟨o, ho, fun t ht => ?_, hcp, hsum ▸ hover, fun hne => hsum ▸ hunder hne⟩
  obtain ⟨hside, hdur, hmarket, hnode, hrate, _⟩ := validateMatchedOrder_eq_ok.mp (hok.matchesOk t ht).1
  exact ⟨hside, hdur, hmarket, hnode, isNodeIDAValidMatch_spec (hperm t ht), hrate⟩

/-- non-vacuity: a two-order proposal (ask with deny list + sidecar bid with allow list, two markets) meets the
hypotheses of `C01_accept_honours_terms` -/
example : WireRanges exBatch ∧ isOk (orderMatchValidate exEnv Rules.fixed exBatch 101 none).1 = true := by
  refine ⟨?_, by decide +kernel⟩
  unfold WireRanges
  decide

/-- … and single deviations of it are rejected: own node key, best height 5 blocks past the hint -/
example : isOk (orderMatchValidate { exEnv with ourNode := "THEM" } Rules.fixed exBatch 101 none).1 = false := by decide +kernel
example : isOk (orderMatchValidate exEnv Rules.fixed exBatch 105 none).1 = false := by decide +kernel

/-- the pending batch changes exactly when the proposal is accepted, and then to this batch -/
theorem C01_pending_set_iff_ok (env : Env) (rules : Rules) (b : Batch) (best : UInt32) (pending : Option String) :
    (orderMatchValidate env rules b best pending).2 =
      match (orderMatchValidate env rules b best pending).1 with
      | .ok _ => some b.id
      | .error _ => pending := by
  unfold orderMatchValidate
  split
  · rfl
  · split <;> rfl

/-- **Order independence.** Go iterates the `MatchedOrders` map in an unspecified order, once in `Verify` and once
in the manager's node-filter loop.  Whatever the two orders (`l`, `l2` permutations of the map's entries), the
accept/reject decision is the same. -/
theorem C01_accept_order_independent (env : Env) (rules : Rules) (b : Batch) (best : UInt32)
    (l l2 : List (Nonce × List Their)) (hl : l.Perm b.matched) (hl2 : l2.Perm b.matched) :
    acceptsWith env rules b best l l2 = acceptsWith env rules b best b.matched b.matched := by
  unfold acceptsWith
  rw [verifyWith_perm env rules b best hl, nodeFilter_perm env hl2]

theorem C01_acceptsWith_self (env : Env) (rules : Rules) (b : Batch) (best : UInt32) (pending : Option String) :
    acceptsWith env rules b best b.matched b.matched = isOk (orderMatchValidate env rules b best pending).1 := by
  rw [Bool.eq_iff_iff, acceptsWith, Bool.and_eq_true, isOk_unit, isOk_iff, isOk_iff, ← verify_eq_verifyWith]
  simp only [orderMatchValidate_eq_ok, exists_and_right]

/-- **Bucket check.** For a batch that came out of `ParseRPCBatch` and was accepted, every order with at least one
match has a *published* clearing price for its duration (the `ClearingPrices` key exists – the price compared with
our rate in `HonoursTerms` is the auctioneer's, not Go's map default 0). -/
theorem C01_clearing_price_published (env : Env) (rules : Rules) (m : PrepareMsg) (b : Batch) (best : UInt32)
    (pending : Option String) (st : Tallies) (hp : parseRPCBatch m = .ok b) (hw : WireRanges b)
    (h : (orderMatchValidate env rules b best pending).1 = .ok st) :
    ∀ nm ∈ b.matched, nm.2 ≠ [] → ∃ o, findOrder nm.1 env.orders = some o ∧
      (b.clearing.lookup o.duration).isSome = true := by
  intro nm hnm hne
  obtain ⟨_, _, hall⟩ := C01_accept_honours_terms env rules b best pending st hw h
  obtain ⟨o, ho, hm, _⟩ := hall nm hnm
  refine ⟨o, ho, ?_⟩
  obtain ⟨t, ht⟩ := List.exists_mem_of_ne_nil _ hne
  rw [← (hm t ht).2.1]
  exact parse_clearing_published m b hp nm hnm t ht

/-- **Regenerated fact.** `ParseRPCServerAsk/Bid` take the counterparty order's lease duration from the message field
as it is – both as the argument of `ParseRPCServerOrder` and in the assignment to `kit.LeaseDuration` – whatever
the order version (the model's `parseTheir` copies `duration` unchanged, so the bucket check and the duration test of
`validateMatchedOrder` see what the auctioneer sent). -/
theorem C01_duration_taken_from_message :
    Pool.Gen.Batch.serverOrderDurationSources.all (· == "details.LeaseDurationBlocks") = true ∧
    Pool.Gen.Batch.serverOrderDurationSources.length = 3 := by decide +kernel

/-- **Regenerated fact.** Whatever SEC encoding a counterparty's node key / funding key arrives in (33-byte compressed,
65-byte uncompressed or hybrid), `ParseRPCServerOrder` stores the *re-serialised compressed* form of the parsed point
in `MatchedOrder.NodeKey` / `MultiSigKey` – never the raw wire bytes.  This is why the model's `parseTheir` works on
canonical keys (own-node test, allow/deny lists and funding scripts compare canonical 33-byte keys). -/
theorem C01_keys_stored_canonical :
    Pool.Gen.Batch.serverOrderKeyCopies.all (· == "SerializeCompressed") = true ∧
    2 ≤ Pool.Gen.Batch.serverOrderKeyCopies.length := by decide +kernel

end Pool.C01
