import PoolProofs.C16LemmasInv
/-! C16: the ticket invariant `InvB` (who holds a signed ticket, what travels on the wire).

Unlike `InvA` it holds after every single effect of a handler (`EffOK`, `applyEffs_B`), so a handler step is: the party
it leaves behind is fine, and so is each of its effects (`procStep_B`). -/
namespace Pool.C16

def Base (t : Ticket) : Prop := t.id = 0 ∧ t.offerSig = .valid
def Sgn (t : Ticket) : Prop := ∃ o, t.order = some o ∧ o.sig = .valid ∧ o.nonce ≠ 0
/-- an offer and a cancellation travel unsigned; every other ticket the provider sends carries its order signature -/
def SgnDue (t : Ticket) : Prop := t.state = 1 ∨ t.state = 6 ∨ Sgn t
def MsgOK (t : Ticket) : Prop := Base t ∧ SgnDue t

/-- what a side persists: the registered ticket, signed once it says "ordered" or "expecting" - what `PartyB.loc` asks of
the local ticket, which a restart loads from the store. ("ordered" is never persisted: `PSt`, `RSt`; with it covered here
`restart_B` needs no `InvA`.) -/
def StoreOK (t : Ticket) : Prop := Base t ∧ (t.state = 3 ∨ t.state = 4 → Sgn t)

/-- The tickets of one side. Both hold only the registered ticket (`Base`); the provider's local ticket is signed while
it is "ordered"/"expecting"; what waits in the recipient's packetChan while it is "expecting" is signed (or
offered/canceled); only the provider has a loop variable. -/
structure PartyB (prov : Bool) (x : Party) : Prop where
  loc : ∀ l, x.loc = some l → Base l ∧ (prov = true → x.alive = true → (x.cur = 3 ∨ x.cur = 4) → Sgn l)
  inbox : ∀ t, x.inbox = some t → Base t ∧ (prov = false → x.cur = 4 → SgnDue t)
  loopPkt : ∀ t, x.loopPkt = some t → prov = true ∧ Base t
  store : StoreOK x.store

structure InvB (s : Sys) : Prop where
  toR : ∀ t ∈ s.toR, MsgOK t
  toP : ∀ t ∈ s.toP, Base t
  p : PartyB true s.p
  r : PartyB false s.r
  log : ∀ t, (false, Eff.expect t true) ∈ s.log → Base t ∧ Sgn t

@[simp] theorem Base_state (t : Ticket) (n : Nat) : Base { t with state := n } ↔ Base t := Iff.rfl
@[simp] theorem Sgn_state (t : Ticket) (n : Nat) : Sgn { t with state := n } ↔ Sgn t := Iff.rfl

theorem signForOrder_spec (l l' : Ticket) (h : signForOrder l = some l') : (Base l → Base l') ∧ Sgn l' := by
  unfold signForOrder at h
  split at h
  · cases h
    exact ⟨fun hb => hb, ⟨⟨1, .valid⟩, rfl, rfl, by decide⟩⟩
  · cases h

theorem validSigned_iff (t : Ticket) : ValidSigned t ↔ Base t ∧ Sgn t := and_assoc.symm

theorem InvB.party {s : Sys} (h : InvB s) (prov : Bool) : PartyB prov (getParty s prov) := by
  cases prov
  · exact h.r
  · exact h.p

theorem InvB_setParty {s : Sys} {prov : Bool} {x : Party} (h : InvB s) (hx : PartyB prov x) :
    InvB (setParty s prov x) := by
  cases prov
  · exact ⟨h.toR, h.toP, h.p, hx, h.log⟩
  · exact ⟨h.toR, h.toP, hx, h.r, h.log⟩

theorem PartyB.lp_none {x : Party} (h : PartyB false x) : x.loopPkt = none := by
  cases hx : x.loopPkt with
  | none => rfl
  | some t => cases (h.loopPkt t hx).1

theorem PartyB_store {prov : Bool} {x : Party} {t : Ticket} (h : PartyB prov x) (ht : StoreOK t) :
    PartyB prov { x with store := t } := ⟨h.loc, h.inbox, h.loopPkt, ht⟩

theorem PartyB_flags {prov : Bool} {x : Party} (fp q : Bool) (h : PartyB prov x) :
    PartyB prov { x with finPend := fp, quit := q } := ⟨h.loc, h.inbox, h.loopPkt, h.store⟩

theorem PartyB_dead {prov : Bool} {y : Party} (hal : y.alive = false) (hloc : ∀ t, y.loc = some t → Base t)
    (hin : y.inbox = none) (hlp : y.loopPkt = none) (hst : StoreOK y.store) : PartyB prov y :=
  ⟨fun t ht => ⟨hloc t ht, fun _ h => (by rw [hal] at h; cases h)⟩, fun t ht => (by rw [hin] at ht; cases ht),
    fun t ht => (by rw [hlp] at ht; cases ht), hst⟩

def EffOK (prov : Bool) : Eff → Prop
  | .send false t true => MsgOK t
  | .send true t true => Base t
  | .update t true => StoreOK t
  | .expect t true => prov = false ∧ Base t ∧ Sgn t
  | _ => True

theorem applyEff_B (prov : Bool) (s : Sys) (e : Eff) (hB : InvB s) (h : EffOK prov e) :
    InvB (applyEff prov s e) := by
  have hs : InvB { s with log := (prov, e) :: s.log } := by
    refine ⟨hB.toR, hB.toP, hB.p, hB.r, fun t ht => ?_⟩
    rcases List.mem_cons.1 ht with ht | ht
    · cases ht; exact h.2
    · exact hB.log t ht
  cases e with
  | send tp t ok =>
    cases ok
    · cases tp <;> exact hs
    · cases tp
      · exact ⟨List.forall_mem_append.2 ⟨hs.toR, List.forall_mem_singleton.2 h⟩, hs.toP, hs.p, hs.r, hs.log⟩
      · exact ⟨hs.toR, List.forall_mem_append.2 ⟨hs.toP, List.forall_mem_singleton.2 h⟩, hs.p, hs.r, hs.log⟩
  | update t ok =>
    cases ok
    · exact hs
    · exact InvB_setParty hs (PartyB_store (hs.party prov) h)
  | submit t r => cases r <;> exact ⟨hs.toR, hs.toP, hs.p, hs.r, hs.log⟩
  | expect t ok =>
    cases ok
    · exact hs
    · exact ⟨hs.toR, hs.toP, hs.p, PartyB_store hs.r ⟨h.2.1, fun _ => h.2.2⟩, hs.log⟩
  | spawnFin => exact InvB_setParty hs (PartyB_flags true _ (hs.party prov))
  | _ => exact hs

theorem applyEffs_B (prov : Bool) (es : List Eff) :
    ∀ s : Sys, InvB s → (∀ e ∈ es, EffOK prov e) → InvB (applyEffs prov s es) := by
  induction es with
  | nil => exact fun s hB _ => hB
  | cons e rest ih =>
    exact fun s hB h => ih _ (applyEff_B prov s e hB (h e (List.mem_cons_self ..)))
      fun e' he' => h e' (List.mem_cons_of_mem _ he')

/-- what is known of the packet a handler has taken (the recipient's comes from its packetChan, which is then empty) -/
def PktOK (prov : Bool) (x : Party) (pkt : Ticket) : Prop :=
  Base pkt ∧ (prov = false → x.inbox = none ∧ (x.cur = 4 → SgnDue pkt))

theorem takePkt_B {prov : Bool} {x : Party} {pkt : Ticket} (h : PartyB prov x) (hn : nextPkt x = some pkt) :
    PartyB prov (takePkt x) ∧ PktOK prov (takePkt x) pkt := by
  rw [takePkt_eq]
  refine ⟨⟨h.loc, fun t ht => ?_, h.loopPkt, h.store⟩,
    (nextPkt_mem hn).elim (fun e => (h.loopPkt pkt e).2) (fun e => (h.inbox pkt e).1), ?_⟩
  · split at ht
    · exact h.inbox t ht
    · cases ht
  · rintro rfl
    have hin : x.inbox = some pkt := (nextPkt_mem hn).resolve_left (by simp [h.lp_none])
    exact ⟨by simp [h.lp_none], (h.inbox pkt hin).2 rfl⟩

/-- The provider's ticket becomes signed exactly where it moves to "ordered" (`signForOrder_spec`); the recipient expects
only what `validateOrdered` accepted or, when already expecting, what `PartyB.inbox` says of its packetChan. -/
theorem procStep_B {s : Sys} {prov : Bool} {x : Party} {pkt l : Ticket} {ox : Option Party} {es : List Eff}
    (hps : procStep s prov x pkt = (ox, es)) (hx : PartyB prov x) (hpkt : PktOK prov x pkt) (hal : x.alive = true)
    (hl : x.loc = some l) :
    ∃ x', ox = some x' ∧ PartyB prov x' ∧ ∀ e ∈ es, EffOK prov e := by
  obtain ⟨hpk, hpk'⟩ := hpkt
  cases prov
  · obtain ⟨hin, hpk4⟩ := hpk' rfl
    have hlB := (hx.loc l hl).1
    have hx' : ∀ {c l'}, Base l' → PartyB false { x with cur := c, loc := some l' } := fun hl' =>
      ⟨fun _ e => by cases e; exact ⟨hl', nofun⟩, fun t ht => (by rw [hin] at ht; cases ht), hx.loopPkt, hx.store⟩
    obtain ⟨o, ho, he⟩ := procStep_ROut s pkt hl
    cases he.symm.trans hps
    cases ho
    case resend => exact ⟨_, rfl, hx' hlB, by simp [EffOK, hlB]⟩
    case expectOk _ _ hv =>
      have hvs := (validSigned_iff pkt).1 (validateOrdered_sound pkt hv)
      exact ⟨_, rfl, hx' hvs.1, by simp [EffOK, hvs]⟩
    case cancel => exact ⟨_, rfl, hx' hlB, by simp [EffOK]⟩
    case reexpOk hc h1 h6 =>
      have hsg : Sgn pkt := ((hpk4 hc).resolve_left h1).resolve_left h6
      exact ⟨_, rfl, hx' hlB, by simp [EffOK, hpk, hsg]⟩
    case expectFail | invalid | reexpFail | unhandled => exact ⟨_, rfl, hx, by simp [EffOK]⟩
  · obtain ⟨hlB, hlS⟩ := hx.loc l hl
    have hlS := hlS rfl hal
    have hx' : ∀ {c l' lp}, Base l' → ((c = 3 ∨ c = 4) → Sgn l') → (lp = none ∨ lp = some pkt) →
        PartyB true { x with cur := c, loc := some l', loopPkt := lp } := fun hl' hs' hlp =>
      ⟨fun _ e => by cases e; exact ⟨hl', fun _ _ => hs'⟩, fun t ht => ⟨(hx.inbox t ht).1, nofun⟩,
        fun t ht => by rcases hlp with h | h <;> rw [h] at ht <;> cases ht; exact ⟨rfl, hpk⟩, hx.store⟩
    have hlp : ∀ b : Bool, (if b then some pkt else none) = none ∨ (if b then some pkt else none) = some pkt :=
      fun b => by cases b <;> simp
    obtain ⟨o, ho, he⟩ := procStep_POut s pkt hl
    cases he.symm.trans hps
    cases ho
    case resend _ h1 => exact ⟨_, rfl, hx' hpk (by simp [sOffered]) (hlp _), by simp [EffOK, MsgOK, SgnDue, hlB, h1]⟩
    case persist _ h2 =>
      exact ⟨_, rfl, hx' hpk (by simp [sRegistered]) (hlp _), by simp [EffOK, StoreOK, hpk, h2]⟩
    case cancel => exact ⟨_, rfl, hx' hlB (by simp [sCanceled]) (hlp _), by simp [EffOK]⟩
    case submitOk l' _ _ hsg =>
      obtain ⟨hb', hs'⟩ := signForOrder_spec l l' hsg
      exact ⟨_, rfl, hx' (hb' hlB) (fun _ => hs') (hlp _), by simp [EffOK]⟩
    case submitDup l' _ hsg =>
      obtain ⟨hb', hs'⟩ := signForOrder_spec l l' hsg
      exact ⟨_, rfl, hx' (hb' hlB) (fun _ => hs') (.inl rfl), by simp [EffOK]⟩
    case finalOk hc =>
      exact ⟨_, rfl, hx' hlB (fun _ => hlS hc) (hlp _), by simp [EffOK, MsgOK, SgnDue, StoreOK, hlB, hlS hc]⟩
    case finalFail hc => exact ⟨_, rfl, hx' hlB hlS (.inl rfl), by simp [EffOK, MsgOK, SgnDue, hlB, hlS hc]⟩
    case persistFail | submitRej | unhandled => exact ⟨_, rfl, hx' hlB hlS (.inl rfl), by simp [EffOK]⟩

theorem restart_B {s : Sys} (prov : Bool) (hB : InvB s) : InvB (restart prov s) := by
  have hx := hB.party prov
  have hst := hx.store
  have hx' : PartyB prov (restartParty prov (getParty s prov)) := by
    unfold restartParty
    split
    · exact PartyB_dead rfl (fun t ht => (hx.loc t ht).1) rfl rfl hst
    · cases prov
      · exact ⟨fun _ e => by cases e; exact ⟨hst.1, nofun⟩,
          fun _ e => by cases e; exact ⟨hst.1, fun _ h => .inr (.inr (hst.2 (.inr h)))⟩, nofun, hst⟩
      · -- the provider resumes as "ordered"/"expecting" only from such a persisted state
        have h34 : ∀ st, resumeState st = 3 ∨ resumeState st = 4 → st = 3 ∨ st = 4 := fun st => by
          rw [resumeState_eq]; split <;> omega
        refine ⟨fun _ e => by cases e; exact ⟨hst.1, fun _ _ hc => hst.2 (h34 _ hc)⟩, fun t ht => ⟨?_, nofun⟩, nofun, hst⟩
        simp only [if_true] at ht
        split at ht <;> cases ht
        exact hst.1
  cases prov
  · exact ⟨hB.toR, hB.toP, hB.p, hx', hB.log⟩
  · exact InvB_setParty hB hx'

theorem finRun_B {s : Sys} {prov : Bool} (st : Nat) (otherSide : Bool) (hA : InvA s) (hB : InvB s)
    (hal : (getParty s prov).alive = true) (hst : st = 5 ∨ st = 6) : InvB (finRun true s prov st otherSide) := by
  obtain ⟨l, hl⟩ := hA.loc hal
  have hx := hB.party prov
  have hlB : Base l := (hx.loc l hl).1
  rw [finRun, finStep_some true prov st otherSide hl]
  refine applyEffs_B prov _ _ (InvB_setParty hB ⟨fun _ e => ?_, hx.inbox, hx.loopPkt, hx.store⟩)
    (List.forall_mem_cons.2 ⟨⟨hlB, fun h => by simp at h; omega⟩, List.forall_mem_singleton.2 ?_⟩)
  · cases e; exact ⟨hlB, fun _ => nofun⟩
  -- the other side is notified of a cancellation only
  split
  · rename_i hn
    have h6 : st = 6 := by simp [sCanceled] at hn; exact hn.1.2
    cases prov
    · exact hlB
    · exact ⟨hlB, .inr (.inl h6)⟩
  · trivial

theorem writeB {s : Sys} (prov : Bool) (t : Ticket) {st : Nat} (hB : InvB s) (ht : Base t) (hst : st = 5 ∨ st = 6) :
    InvB (setParty s prov { getParty s prov with store := { t with state := st } }) :=
  InvB_setParty hB (PartyB_store (hB.party prov) ⟨ht, fun h => by simp at h; omega⟩)

theorem stepB (s s' : Sys) (a : Act) (hA : InvA s) (hB : InvB s) (ha : applyG true s a = some s') :
    InvB s' := by
  cases a with
  | deliver tp i =>
    obtain ⟨m, hm, -, rfl⟩ := applyG_deliver.1 ha
    have hm := List.mem_of_getElem? hm
    refine InvB_setParty hB ?_
    cases tp
    · exact ⟨hB.r.loc, fun _ e => by cases e; exact ⟨(hB.toR m hm).1, fun _ _ => (hB.toR m hm).2⟩, hB.r.loopPkt,
        hB.r.store⟩
    · exact ⟨hB.p.loc, fun _ e => by cases e; exact ⟨hB.toP m hm, nofun⟩, hB.p.loopPkt, hB.p.store⟩
  | proc prov =>
    obtain ⟨⟨hal, -⟩, pkt, ox, es, hn, hps, rfl⟩ := applyG_proc.1 ha
    obtain ⟨l, hl⟩ := hA.loc hal
    obtain ⟨hx, hpkt⟩ := takePkt_B (hB.party prov) hn
    obtain ⟨x', rfl, hx', hes⟩ := procStep_B hps hx hpkt (by simpa using hal) (by simpa using hl)
    exact applyEffs_B prov es _ (InvB_setParty hB hx') hes
  | procCrash prov k =>
    obtain ⟨⟨hal, -⟩, pkt, ox, es, hn, hps, -, rfl⟩ := applyG_procCrash.1 ha
    obtain ⟨l, hl⟩ := hA.loc hal
    obtain ⟨hx, hpkt⟩ := takePkt_B (hB.party prov) hn
    obtain ⟨-, -, -, hes⟩ := procStep_B hps hx hpkt (by simpa using hal) (by simpa using hl)
    exact restart_B prov (applyEffs_B prov _ s hB fun e he => hes e (List.mem_of_mem_take he))
  | fin prov =>
    obtain ⟨⟨hal, -⟩, rfl⟩ := applyG_fin.1 ha
    exact finRun_B _ _ hA hB hal (.inr rfl)
  | finalize prov st =>
    obtain ⟨⟨hal, -, -, -, hst⟩, rfl⟩ := applyG_finalize.1 ha
    exact finRun_B _ _ hA hB hal hst
  | stop prov => obtain rfl := applyG_stop.1 ha; exact InvB_setParty hB (PartyB_flags _ true (hB.party prov))
  | quit prov =>
    obtain ⟨⟨-, -, hlp⟩, rfl⟩ := applyG_quit.1 ha
    exact InvB_setParty hB (PartyB_dead rfl (fun t ht => ((hB.party prov).loc t ht).1) rfl hlp (hB.party prov).store)
  | restart prov => obtain rfl := applyG_restart.1 ha; exact restart_B prov hB
  | recvErr prov =>
    obtain ⟨-, rfl⟩ := applyG_recvErr.1 ha
    exact ⟨hB.toR, hB.toP, hB.p, hB.r, fun t ht => hB.log t (by simpa using ht)⟩
  | cancelRPC prov =>
    obtain ⟨-, s1, hs1, rfl⟩ := hA.cancelRPC ha
    refine writeB prov _ ?_ (hB.party prov).store.1 (.inr rfl)
    rcases hs1 with ⟨-, rfl⟩ | ⟨hal, -, rfl⟩
    · exact hB
    · exact finRun_B _ _ hA hB hal (.inr rfl)
  | completeRPC prov =>
    obtain ⟨-, ⟨hal, rfl⟩ | ⟨-, rfl⟩⟩ := applyG_completeRPC.1 ha
    · exact finRun_B _ _ hA hB hal (.inl rfl)
    · exact writeB prov _ hB (hB.party prov).store.1 (.inl rfl)

theorem InvB_init : InvB init := by
  refine ⟨nofun, nofun, ⟨?_, ?_, ?_, ?_⟩, ⟨?_, ?_, ?_, ?_⟩, nofun⟩ <;>
    simp [init, Base, StoreOK, tOffered, tRegistered, sOffered, sRegistered]

theorem reachable_InvB (s : Sys) (h : Reachable s) : InvB s := by
  obtain ⟨as, has⟩ := h
  unfold run at has
  rw [finReturns_true] at has
  exact (runG_invariant (I := fun s => InvA s ∧ InvB s)
    (fun s s' a h ha => ⟨(stepA s s' a h.1 ha).inv, stepB s s' a h.1 h.2 ha⟩) as init s ⟨InvA_init, InvB_init⟩ has).2

end Pool.C16
