import PoolModel.C18Client
/-! Bookkeeping of the repaired client (`Variant.fixed`) inside the fault model.  Every operation of the model gets a
specification in terms of what the operations it calls guarantee (`HsSpec` for the handshake function, `ReSpec` for
`HandleServerShutdown`); `hsLevel_spec` ties the recursion between the two. -/
namespace Pool.C18

def FaultsOnly (l : List Beh) : Prop :=
  ∀ b ∈ l, b = Beh.ok ∨ b = Beh.errBC ∨ b = Beh.errAC ∨ b = Beh.errMid ∨ b = Beh.shutBC ∨ b = Beh.shutAC

instance : DecidablePred FaultsOnly := fun l => inferInstanceAs (Decidable (∀ b ∈ l, _))

theorem FaultsOnly.tail {b : Beh} {l : List Beh} (h : FaultsOnly (b :: l)) : FaultsOnly l :=
  fun x hx => h x (List.mem_cons_of_mem _ hx)

/-- still inside the modelled fragment and the fault model, no account twice in the map: what every operation of the
repaired client preserves, whatever the state of its streams -/
structure Sane (c : Client) : Prop where
  nodup : c.accts.Nodup
  chaos : c.chaos = false
  faults : FaultsOnly c.beh

/-- moreover the newest stream is alive and carries exactly one acknowledged subscription per map entry -/
structure Live (c : Client) : Prop extends Sane c where
  isOpen : c.isOpen = true
  alive : c.cur.alive = true
  perm : List.Perm c.cur.subs c.accts
  succ : c.cur.success = c.cur.subs

/-- quiescent and healthy: either nothing was ever subscribed, or the newest stream is alive and the auctioneer has
received on it exactly one (verified, acknowledged) subscription per account of `subscribedAccts` -/
def Healthy (c : Client) : Prop :=
  c.accts.Nodup ∧ c.chaos = false ∧
  ((c.isOpen = false ∧ c.accts = []) ∨
   (c.isOpen = true ∧ c.cur.alive = true ∧ List.Perm c.cur.subs c.accts ∧ c.cur.success = c.cur.subs))

theorem Healthy.live {c : Client} (h : Healthy c) (hop : c.isOpen = true) (hf : FaultsOnly c.beh) : Live c := by
  obtain ⟨hnd, hch, ⟨hcl, -⟩ | ⟨-, hal, hp, hs⟩⟩ := h
  · cases hcl.symm.trans hop
  · exact ⟨⟨hnd, hch, hf⟩, hop, hal, hp, hs⟩

theorem Healthy.script {c : Client} {k fo fb : Nat} {beh : List Beh} (h : Healthy c) :
    Healthy (c.script k beh fo fb) := h

/-- `c'` is reached from `c`: script and scripted failures only get used up, streams only get added -/
structure Later (c c' : Client) : Prop where
  beh : c'.beh.length ≤ c.beh.length
  fails : c'.failOpen + c'.failBatch ≤ c.failOpen + c.failBatch
  str : c.streams.length ≤ c'.streams.length

theorem Later.refl (c : Client) : Later c c := ⟨Nat.le_refl _, Nat.le_refl _, Nat.le_refl _⟩

theorem Later.trans {c c₁ c₂ : Client} (h₁ : Later c c₁) (h₂ : Later c₁ c₂) : Later c c₂ :=
  ⟨Nat.le_trans h₂.beh h₁.beh, Nat.le_trans h₂.fails h₁.fails, Nat.le_trans h₁.str h₂.str⟩

/-- `c'` differs from `c` at most in the state of its streams (not their number) and in `isOpen`: the stream
operations `setCur`, `failStream`, `closeStream` change nothing else -/
structure SameBook (c c' : Client) : Prop where
  accts : c'.accts = c.accts
  chaos : c'.chaos = c.chaos
  beh : c'.beh = c.beh
  fo : c'.failOpen = c.failOpen
  fb : c'.failBatch = c.failBatch
  str : c'.streams.length = c.streams.length

theorem SameBook.refl (c : Client) : SameBook c c := ⟨rfl, rfl, rfl, rfl, rfl, rfl⟩

theorem Client.setCur_book (c : Client) (f : Stream → Stream) : SameBook c (c.setCur f) := by
  rcases c with ⟨_, _, _ | _, _, _, _, _, _, _, _, _⟩ <;> exact ⟨rfl, rfl, rfl, rfl, rfl, rfl⟩

theorem Client.closeStream_book (c : Client) : SameBook c c.closeStream := by
  rcases c with ⟨_, _ | _, _ | _, _, _, _, _, _, _, _, _⟩ <;> exact ⟨rfl, rfl, rfl, rfl, rfl, rfl⟩

theorem Sane.book {c c' : Client} (h : Sane c) (b : SameBook c c') : Sane c' :=
  ⟨b.accts ▸ h.nodup, b.chaos ▸ h.chaos, b.beh ▸ h.faults⟩

theorem SameBook.later {c c' : Client} (b : SameBook c c') : Later c c' :=
  ⟨Nat.le_of_eq (congrArg _ b.beh), Nat.le_of_eq (by rw [b.fo, b.fb]), Nat.le_of_eq b.str.symm⟩

def IsConnFail (r : HsRes) : Prop := r = .errConnect ∨ r = .errBatch

/-- how a handshake, a re-subscription loop or a reconnect started in `c` can end inside the fault model, `t` being
the accounts the map must then hold: with everything subscribed on a live stream; aborted by a shutdown notice, which
consumed a behaviour of the script (the reconnect that starts over will subscribe the map); or failed at a stream open
/ pending-batch check, which consumed one of the scripted failures.  The map is complete in every case.  The other
results do not occur: the repaired client absorbs a transport error by an inline reconnect (no `errTransport`), and
`FaultsOnly` scripts neither `reject` (`errRejected`) nor `okShut` (`okDirty`). -/
structure Outcome (c : Client) (p : Client × HsRes) (t : List Nat) : Prop where
  sane : Sane p.1
  perm : List.Perm p.1.accts t
  later : Later c p.1
  res : (p.2 = .ok ∧ Live p.1) ∨ (p.2 = .errShutdown ∧ p.1.beh.length < c.beh.length) ∨
    (IsConnFail p.2 ∧ p.1.failOpen + p.1.failBatch < c.failOpen + c.failBatch)

theorem Outcome.mono {c₀ c : Client} {p : Client × HsRes} {t t' : List Nat} (h : Later c₀ c) (o : Outcome c p t)
    (ht : List.Perm t t') : Outcome c₀ p t' :=
  ⟨o.sane, o.perm.trans ht, h.trans o.later,
    o.res.imp id (Or.imp (And.imp_right fun l => Nat.lt_of_lt_of_le l h.beh)
      (And.imp_right fun l => Nat.lt_of_lt_of_le l h.fails))⟩

/-- what the re-subscription loop and the reconnect need of the handshake function, for scripts shorter than `n` -/
def HsSpec (hs : Client → Nat → Client × HsRes) (n : Nat) : Prop :=
  ∀ (c : Client) (a : Nat), Live c → a ∉ c.accts → c.beh.length < n → Outcome c (hs c a) (c.accts ++ [a])

/-- `Outcome` of a reconnect started in `c`: the map is to stay as it is, and success means a new stream -/
def ReOutcome (c : Client) (p : Client × HsRes) : Prop :=
  Outcome c p c.accts ∧ (p.2 = .ok → c.streams.length < p.1.streams.length)

/-- what a handshake needs of `HandleServerShutdown`, for scripts shorter than `n`: from any state of the fragment it
keeps the map, does not end with a shutdown notice pending, and success means a new stream -/
def ReSpec (re : Client → Client × HsRes) (n : Nat) : Prop :=
  ∀ c : Client, Sane c → c.beh.length < n → ReOutcome c (re c) ∧ (re c).2 ≠ .errShutdown

theorem hsLevel_eq (v : Variant) (pick : List Nat → List Nat) (n : Nat) :
    ∃ inl, hsLevel v pick n = Client.connectAndAuth v inl := by
  cases n <;> exact ⟨_, rfl⟩

variable {v : Variant} {pick : List Nat → List Nat} {hs : Client → Nat → Client × HsRes}
  {inl hsd : Client → Client × HsRes} {n : Nat}

theorem resubLoop_abort {c c₁ : Client} {a : Nat} {r : HsRes}
    (h : hs c a = (c₁, r)) (h₁ : r ≠ .ok) (h₂ : r ≠ .okDirty) (rest : List Nat) :
    c.resubLoop .fixed hs (a :: rest) = ({ c₁ with accts := keepAccts c₁.accts rest }, r) := by
  cases r <;> simp_all [Client.resubLoop, Variant.fixed]

theorem keepAccts_disjoint {l rest : List Nat} (h : ∀ x ∈ rest, x ∉ l) : keepAccts l rest = l ++ rest := by
  rw [keepAccts, List.filter_eq_self.mpr fun x hx => by simp [h x hx]]

theorem resubLoop_spec (hP : HsSpec hs n) :
    ∀ (ord : List Nat) (c : Client), Live c → (c.accts ++ ord).Nodup → c.beh.length < n →
      Outcome c (c.resubLoop .fixed hs ord) (c.accts ++ ord)
  | [], c, hl, _, _ => ⟨hl.toSane, by simp [Client.resubLoop], Later.refl c, Or.inl ⟨rfl, hl⟩⟩
  | a :: rest, c, hl, hnd, hlen => by
    have o := hP c a hl (fun ha => (List.nodup_append.mp hnd).2.2 a ha a List.mem_cons_self rfl) hlen
    rcases h : hs c a with ⟨c₁, r⟩
    rw [h] at o
    obtain ⟨s₁, p₁, l₁, res⟩ := o
    have pt : List.Perm (c₁.accts ++ rest) (c.accts ++ a :: rest) := by
      simpa using p₁.append_right rest
    have hnd₁ := pt.nodup_iff.mpr hnd
    rcases res with ⟨rfl, hl₁⟩ | hab
    · rw [Client.resubLoop, h]
      exact (resubLoop_spec hP rest c₁ hl₁ hnd₁ (Nat.lt_of_le_of_lt l₁.beh hlen)).mono l₁ pt
    · -- the loop stops at this handshake: keepSubscriptions(rest), return the error
      have hr : r ≠ .ok ∧ r ≠ .okDirty := by rcases hab with ⟨rfl, _⟩ | ⟨rfl | rfl, _⟩ <;> simp
      rw [resubLoop_abort h hr.1 hr.2,
        keepAccts_disjoint fun x hx hin => (List.nodup_append.mp hnd₁).2.2 x hin x hx rfl]
      exact ⟨{ s₁ with nodup := hnd₁ }, pt, { l₁ with }, Or.inr hab⟩

theorem ReOutcome.of_loop {c c₀ : Client} {p : Client × HsRes} {t : List Nat} (o : Outcome c₀ p t)
    (hl : Later c c₀) (ht : List.Perm t c.accts) (hstr : c.streams.length < c₀.streams.length) : ReOutcome c p :=
  ⟨o.mono hl ht, fun _ => Nat.lt_of_lt_of_le hstr o.later.str⟩

theorem reconnectOnce_spec (hpick : ∀ l, List.Perm (pick l) l) (hP : HsSpec hs n) (c : Client) (hc : Sane c)
    (hlen : c.beh.length < n) : ReOutcome c (c.reconnectOnce .fixed pick hs) := by
  have b := c.closeStream_book
  unfold Client.reconnectOnce Client.connectStream
  generalize c.closeStream = cs at b ⊢
  have hs' := hc.book b
  by_cases hfo : cs.failOpen = 0
  · by_cases hfb : cs.failBatch = 0
    · -- a fresh live stream, the map emptied: the loop re-subscribes `pick c.accts`
      simp only [hfo, hfb, if_true]
      refine .of_loop (resubLoop_spec hP _ _ ⟨{ hs' with nodup := List.nodup_nil }, rfl, rfl, .refl _, rfl⟩
        ((hpick _).nodup_iff.mpr hs'.nodup) (b.beh ▸ hlen))
        (b.later.trans ⟨Nat.le_refl _, Nat.zero_le _, Nat.le_succ _⟩) (b.accts ▸ hpick _)
        (b.str ▸ Nat.lt_succ_self _)
    · -- the pending-batch check on the new stream fails
      simp only [hfo, if_true]
      rw [if_neg (by decide), if_pos (by simpa using hfb)]
      exact ⟨⟨{ hs' with }, b.accts ▸ .refl _,
        b.later.trans ⟨Nat.le_refl _, Nat.add_le_add (Nat.zero_le _) (Nat.sub_le _ _), Nat.le_succ _⟩,
        Or.inr (Or.inr ⟨Or.inr rfl, show 0 + (cs.failBatch - 1) < _ by have := b.fb; omega⟩)⟩,
        fun h => nomatch h⟩
  · -- opening the new stream fails although the Terms probe succeeded
    simp only [hfo, if_false]
    rw [if_pos (by decide)]
    exact ⟨⟨{ hs' with }, b.accts ▸ .refl _,
      b.later.trans ⟨Nat.le_refl _, Nat.add_le_add_right (Nat.sub_le _ _) _, Nat.le_refl _⟩,
      Or.inr (Or.inr ⟨Or.inl rfl, show cs.failOpen - 1 + cs.failBatch < _ by have := b.fo; have := b.fb; omega⟩)⟩,
      fun h => nomatch h⟩

theorem handleShutdown_done {c c₁ : Client} {r : HsRes} (h : c.reconnectOnce v pick hs = (c₁, r))
    (hr : r = .ok ∨ IsConnFail r) (fuel : Nat) : c.handleShutdown v pick hs fuel = (c₁, r) := by
  rcases hr with rfl | rfl | rfl <;> cases fuel <;> simp only [Client.handleShutdown, h]

/-- `HandleServerShutdown`: every shutdown notice that makes it start over consumes a behaviour of the script, so
`fuel` suffices.  The script's length is bounded twice, by `n` for the handshakes (`HsSpec hs n`) and by `fuel` for the
unrolling, because `hsLevel` and `step` pair a handshake depth with different numbers of rounds. -/
theorem handleShutdown_spec (hpick : ∀ l, List.Perm (pick l) l) (hP : HsSpec hs n) (fuel : Nat) :
    ∀ c : Client, Sane c → c.beh.length < n → c.beh.length ≤ fuel →
      ReOutcome c (c.handleShutdown .fixed pick hs fuel) ∧
        (c.handleShutdown .fixed pick hs fuel).2 ≠ .errShutdown := by
  induction fuel using Nat.strongRecOn with
  | ind fuel ih =>
    intro c hc hlen hfu
    obtain ⟨o, hstr⟩ := reconnectOnce_spec hpick hP c hc hlen
    rcases h : c.reconnectOnce .fixed pick hs with ⟨c₁, r⟩
    rw [h] at o hstr
    rcases o.res with ⟨hr, _⟩ | ⟨rfl, hlt⟩ | ⟨hr, _⟩
    · rw [handleShutdown_done h (.inl hr) fuel]
      exact ⟨⟨o, hstr⟩, by cases hr; nofun⟩
    · -- the reader of the new stream closed it and marked the re-connect dirty: start over
      obtain ⟨f, rfl⟩ : ∃ f, fuel = f + 1 := ⟨fuel - 1, by have : c₁.beh.length < c.beh.length := hlt; omega⟩
      have b := c₁.closeStream_book
      obtain ⟨⟨o', hstr'⟩, hne⟩ := ih f (Nat.lt_succ_self f) c₁.closeStream (o.sane.book b)
        (b.beh ▸ Nat.lt_of_le_of_lt o.later.beh hlen) (b.beh ▸ Nat.le_of_lt_succ (Nat.lt_of_lt_of_le hlt hfu))
      have e : c.handleShutdown .fixed pick hs (f + 1) = c₁.closeStream.handleShutdown .fixed pick hs f := by
        rw [Client.handleShutdown, h]; rfl
      exact e ▸ ⟨⟨o'.mono (o.later.trans b.later) (b.accts ▸ o.perm),
        fun hok => Nat.lt_of_le_of_lt (b.str ▸ o.later.str) (hstr' hok)⟩, hne⟩
    · rw [handleShutdown_done h (.inr hr) fuel]
      exact ⟨⟨o, hstr⟩, by rcases hr with rfl | rfl <;> nofun⟩

/-- "Don't subscribe more than once." -/
theorem connectAndAuth_known {c : Client} {a : Nat} (ha : a ∈ c.accts) :
    Client.connectAndAuth v inl c a = (c, .ok) := by
  simp [Client.connectAndAuth, ha]

theorem connectAndAuth_first {c : Client} {a : Nat} (ha : a ∉ c.accts)
    (hop : c.isOpen = false) (hfo : c.failOpen = 0) (hfb : c.failBatch = 0) :
    Client.connectAndAuth v inl c a = Client.connectAndAuth v inl c.connectStream a := by
  simp [Client.connectAndAuth, Client.connectStream, ha, hop, hfo, hfb]

/-- a handshake for a new account `a` on a live stream, after the map insertion and with the auctioneer's next
behaviour taken -/
def Client.started (c : Client) (a : Nat) : Client := { c with accts := c.accts ++ [a], beh := c.beh.tail }

theorem Live.started {c : Client} {a : Nat} (hl : Live c) (ha : a ∉ c.accts) :
    Sane (c.started a) ∧ Later c (c.started a) :=
  ⟨{ hl with
      nodup := (List.perm_append_singleton a _).nodup_iff.mpr (List.nodup_cons.mpr ⟨ha, hl.nodup⟩)
      faults := fun b hb => hl.faults b (List.mem_of_mem_tail hb) },
    List.length_tail ▸ Nat.sub_le _ _, Nat.le_refl _, Nat.le_refl _⟩

theorem Live.started_ok {c : Client} {a : Nat} (hl : Live c) (ha : a ∉ c.accts) :
    Live ((c.started a).setCur fun s => { s with subs := s.subs ++ [a], success := s.success ++ [a] }) := by
  obtain ⟨s, ss, hs⟩ : ∃ s ss, c.streams = s :: ss := by
    cases hs : c.streams with
    | nil => have := hl.alive; simp [Client.cur, hs] at this
    | cons s ss => exact ⟨s, ss, rfl⟩
  obtain ⟨hs₁, -⟩ := hl.started ha
  obtain ⟨-, hop, hal, hp, hsu⟩ := hl
  simp only [Client.cur, hs, List.headD_cons] at hal hp hsu
  simp only [Client.started, Client.setCur, hs]
  exact ⟨{ hs₁ with }, hop, hal, hp.append_right [a], congrArg (· ++ [a]) hsu⟩

/-- A handshake for a new account on a live stream, up to the streams of `c.started a`: acknowledged on that stream; or,
a behaviour of the script consumed, it is what the inline reconnect returns (a transport error, at any point) or it is
aborted by a shutdown notice. -/
theorem connectAndAuth_live {c : Client} {a : Nat} (hl : Live c) (ha : a ∉ c.accts) :
    ∃ c₂, SameBook (c.started a) c₂ ∧
      (Client.connectAndAuth .fixed inl c a = (c₂, .ok) ∧ Live c₂ ∨
        (c.started a).beh.length < c.beh.length ∧
          (Client.connectAndAuth .fixed inl c a = inl c₂ ∨ Client.connectAndAuth .fixed inl c a = (c₂, .errShutdown))) := by
  have hcase : c.beh.headD .ok = .ok ∨ (c.started a).beh.length < c.beh.length ∧
      (c.beh.headD .ok = .errBC ∨ c.beh.headD .ok = .errAC ∨ c.beh.headD .ok = .errMid ∨
        c.beh.headD .ok = .shutBC ∨ c.beh.headD .ok = .shutAC) := by
    cases hb : c.beh with
    | nil => exact Or.inl rfl
    | cons b t => simpa [Client.started, hb] using hl.faults b (by simp [hb])
  have hal : (c.streams.headD ({ alive := false } : Stream)).alive = true := hl.alive
  have hop : (!c.isOpen) = false := by rw [hl.isOpen]; rfl
  -- `c.isOpen` is rewritten in the tests only, so that the states stay `c.started a` up to `setCur`
  simp only [Client.connectAndAuth, ha, if_pos hl.isOpen, hop, if_false, if_true, addAcct, Client.cur, hal,
    Bool.not_true, Bool.false_and, Bool.false_eq_true, Variant.fixed]
  rcases hcase with h | ⟨hlt, h | h | h | h | h⟩ <;> rw [h] <;> dsimp only
  · exact ⟨_, Client.setCur_book _ _, .inl ⟨rfl, hl.started_ok ha⟩⟩
  · exact ⟨_, Client.setCur_book _ _, .inr ⟨hlt, .inl rfl⟩⟩
  · exact ⟨_, Client.setCur_book _ _, .inr ⟨hlt, .inl rfl⟩⟩
  · exact ⟨_, Client.setCur_book _ _, .inr ⟨hlt, .inl rfl⟩⟩
  · exact ⟨_, .refl _, .inr ⟨hlt, .inr rfl⟩⟩
  · exact ⟨_, Client.setCur_book _ _, .inr ⟨hlt, .inr rfl⟩⟩

/-- the handshake, given what its inline `HandleServerShutdown` guarantees: a transport error at any point is absorbed by
that reconnect (or the reconnect's failure passed on), a shutdown notice aborts it with the account kept in the map -/
theorem connectAndAuth_spec (hinl : ReSpec inl n) :
    HsSpec (Client.connectAndAuth .fixed inl) (n + 1) := by
  intro c a hl ha hlen
  obtain ⟨c₂, b, h⟩ := connectAndAuth_live (inl := inl) hl ha
  obtain ⟨hs₁, hl₁⟩ := hl.started ha
  have hs₂ := hs₁.book b
  have hl₂ := hl₁.trans b.later
  have hp : List.Perm c₂.accts (c.accts ++ [a]) := b.accts ▸ .refl _
  rcases h with ⟨h, hlive⟩ | ⟨hlt, h | h⟩ <;> rw [h]
  · exact ⟨hs₂, hp, hl₂, .inl ⟨rfl, hlive⟩⟩
  · exact (hinl c₂ hs₂ (b.beh ▸ Nat.lt_of_lt_of_le hlt (Nat.le_of_lt_succ hlen))).1.1.mono hl₂ hp
  · exact ⟨hs₂, hp, hl₂, .inr (.inl ⟨rfl, b.beh ▸ hlt⟩)⟩

/-- **every handshake of the repaired client ends inside the fault model as `Outcome` says**, at any recursion depth
that covers the script: each nested reconnect consumed a behaviour -/
theorem hsLevel_spec (hpick : ∀ l, List.Perm (pick l) l) :
    ∀ n, HsSpec (hsLevel .fixed pick n) (n + 1)
  | 0 => connectAndAuth_spec fun _ _ h => absurd h (Nat.not_lt_zero _)
  | n + 1 => connectAndAuth_spec fun c hc h =>
      handleShutdown_spec hpick (hsLevel_spec hpick n) (n + 1) c hc h (Nat.le_of_lt h)

/-- `StartAccountSubscription` from a quiescent healthy state with no failing open / batch check scripted, whatever the
handshake finds: a known account (nothing to do), no stream yet (the first connect) or a live one -/
theorem hsLevel_healthy (hpick : ∀ l, List.Perm (pick l) l) (n : Nat) {c : Client} (a : Nat) (hH : Healthy c)
    (hf : FaultsOnly c.beh) (hfo : c.failOpen = 0) (hfb : c.failBatch = 0) (hlen : c.beh.length ≤ n) :
    Outcome c (hsLevel .fixed pick n c a) (addAcct c.accts a) := by
  obtain ⟨inl, hinl⟩ := hsLevel_eq .fixed pick n
  rcases hH.2.2 with ⟨hcl, hemp⟩ | ⟨hop, -⟩
  · have ha : a ∉ c.accts := by simp [hemp]
    rw [hinl, connectAndAuth_first ha hcl hfo hfb, ← hinl, Client.connectStream, if_pos hfo]
    refine Outcome.mono ?_ (hsLevel_spec hpick n _ a ?_ ha (Nat.lt_succ_of_le hlen)) (by simp [addAcct, ha])
    · exact ⟨Nat.le_refl _, Nat.le_refl _, Nat.le_succ _⟩
    · exact ⟨⟨hH.1, hH.2.1, hf⟩, rfl, rfl, hemp ▸ .refl _, rfl⟩
  · have hl := hH.live hop hf
    by_cases ha : a ∈ c.accts
    · rw [hinl, connectAndAuth_known ha]
      exact ⟨hl.toSane, by simp [addAcct, ha], .refl c, .inl ⟨rfl, hl⟩⟩
    · exact (hsLevel_spec hpick n c a hl ha (Nat.lt_succ_of_le hlen)).mono (.refl c) (by simp [addAcct, ha])

theorem handleShutdown_step_spec (hpick : ∀ l, List.Perm (pick l) l) (d : Nat) :
    ReSpec (fun c => c.handleShutdown .fixed pick (hsLevel .fixed pick d) d) (d + 1) :=
  fun c hc h => handleShutdown_spec hpick (hsLevel_spec hpick d) d c hc h (Nat.le_of_lt_succ h)

/-- how the handlers that retry the reconnect until it succeeds end (`handlerLoop`, `readerShutdown`): the success case of
`ReOutcome` – live on a new stream, the map kept -/
structure Recovered (c c' : Client) : Prop where
  live : Live c'
  perm : List.Perm c'.accts c.accts
  str : c.streams.length < c'.streams.length

theorem handlerLoop_ok {fuel : Nat} {c c' : Client} (h : hsd c = (c', .ok)) :
    Client.handlerLoop v hsd fuel c = { c' with handlerRes := c'.handlerRes ++ [ErrClass.none_] } := by
  cases fuel <;> simp [Client.handlerLoop, Client.handlerRound, h]

theorem handlerLoop_fail {fuel : Nat} {c c1 : Client} {r : HsRes} (h : hsd c = (c1, r)) (hr : IsConnFail r) :
    Client.handlerLoop Variant.fixed hsd (fuel + 1) c =
      Client.handlerLoop Variant.fixed hsd fuel { c1 with handlerRes := c1.handlerRes ++ [ErrClass.other] } := by
  rcases hr with rfl | rfl <;> simp [Client.handlerLoop, Client.handlerRound, h, Variant.fixed]

/-- the main handler's retry loop (`serverHandler`): every failed round consumed a failing open / batch check, so
`fuel` for all of them suffices -/
theorem handlerLoop_spec (hre : ReSpec hsd n) (fuel : Nat) :
    ∀ c : Client, Sane c → c.beh.length < n → c.failOpen + c.failBatch ≤ fuel →
      Recovered c (Client.handlerLoop .fixed hsd fuel c) := by
  induction fuel using Nat.strongRecOn with
  | ind fuel ih =>
    intro c hc hlen hfu
    obtain ⟨⟨o, hstr⟩, hne⟩ := hre c hc hlen
    rcases h : hsd c with ⟨c₁, r⟩
    rw [h] at o hstr hne
    rcases o.res with ⟨rfl, hl⟩ | ⟨hr, _⟩ | ⟨hr, hlt⟩
    · rw [handlerLoop_ok h]
      exact ⟨{ hl with }, o.perm, hstr rfl⟩
    · exact absurd hr hne
    · obtain ⟨f, rfl⟩ : ∃ f, fuel = f + 1 :=
        ⟨fuel - 1, by have : c₁.failOpen + c₁.failBatch < c.failOpen + c.failBatch := hlt; omega⟩
      rw [handlerLoop_fail h hr]
      have r' := ih f (Nat.lt_succ_self f) { c₁ with handlerRes := c₁.handlerRes ++ [ErrClass.other] }
        { o.sane with } (Nat.lt_of_le_of_lt o.later.beh hlen)
        (Nat.le_of_lt_succ (Nat.lt_of_lt_of_le hlt hfu))
      exact ⟨r'.live, r'.perm.trans o.perm, Nat.lt_of_le_of_lt o.later.str r'.str⟩

theorem mainHandler_spec (hre : ReSpec hsd n) {fuel : Nat} {c : Client}
    (hc : Sane c) (hlen : c.beh.length < n) (hfu : c.failOpen + c.failBatch ≤ fuel) (e : ErrClass) :
    Recovered c (c.mainHandler .fixed hsd fuel e) :=
  { handlerLoop_spec hre fuel { c with mainErrs := c.mainErrs ++ [e] } { hc with } hlen hfu with }

theorem readerShutdown_spec (hre : ReSpec hsd n) {fuel : Nat} {c : Client}
    (hc : Sane c) (hlen : c.beh.length < n) (hfu : c.failOpen + c.failBatch ≤ fuel) :
    Recovered c (c.readerShutdown .fixed hsd fuel) := by
  obtain ⟨⟨o, hstr⟩, hne⟩ := hre c hc hlen
  rcases h : hsd c with ⟨c₁, r⟩
  rw [h] at o hstr hne
  rcases o.res with ⟨rfl, hl⟩ | ⟨hr, _⟩ | ⟨hr, hlt⟩
  · have e : c.readerShutdown .fixed hsd fuel = c₁ := by simp [Client.readerShutdown, h]
    exact e ▸ ⟨hl, o.perm, hstr rfl⟩
  · exact absurd hr hne
  · have r' := mainHandler_spec hre o.sane (Nat.lt_of_le_of_lt o.later.beh hlen)
      (Nat.le_trans (Nat.le_of_lt hlt) hfu) .other
    have e : c.readerShutdown .fixed hsd fuel = c₁.mainHandler .fixed hsd fuel .other := by
      rcases hr with rfl | rfl <;> simp [Client.readerShutdown, h]
    exact e ▸ ⟨r'.live, r'.perm.trans o.perm, Nat.lt_of_le_of_lt o.later.str r'.str⟩

end Pool.C18
