import PoolModel.Digest
/-! Shared by C12 and C14: the concatenation of encodings of values of fixed static types is injective
(`encAll_inj`), hence so is a version switch over argument lists that start with a key and the version
(`switch_inj`). -/
-- for the `decide`d examples of C12 and C14, which compare `Except` values
deriving instance DecidableEq for Except

namespace Pool.Digest

theorem beBytes_length (w v : Nat) : (beBytes w v).length = w := by
  induction w generalizing v with
  | zero => rfl
  | succ w ih => simp [beBytes, ih]

theorem beBytes_inj (w : Nat) {v v' : Nat} (hv : v < 256 ^ w) (hv' : v' < 256 ^ w)
    (h : beBytes w v = beBytes w v') : v = v' := by
  induction w generalizing v v' with
  | zero => simp at hv hv'; omega
  | succ w ih =>
    simp only [beBytes] at h
    obtain ⟨h1, h2⟩ := List.append_inj h (by rw [beBytes_length, beBytes_length])
    have h3 : v % 256 = v' % 256 := by simpa using congrArg (·.map UInt8.toNat) h2
    rw [Nat.pow_succ] at hv hv'
    have h4 := ih (Nat.div_lt_of_lt_mul (by omega)) (Nat.div_lt_of_lt_mul (by omega)) h1
    omega

/-- `a` is a value of the static Go type `s` = (raw bytes?, width): the type fixes kind and width, and an integer is
below `256 ^ width` -/
def FV.Fits : FV → Bool × Nat → Prop
  | .num w v, s => s = (false, w) ∧ v < 256 ^ w
  | .raw bs, s => s = (true, bs.length)

theorem FV.Fits.enc_length {a : FV} {s : Bool × Nat} (h : a.Fits s) : a.enc.length = s.2 := by
  cases a
  · rw [h.1]
    exact beBytes_length _ _
  · rw [h]
    rfl

theorem FV.Fits.enc_append_inj {a b : FV} {s : Bool × Nat} (ha : a.Fits s) (hb : b.Fits s) {l l' : List UInt8}
    (h : a.enc ++ l = b.enc ++ l') : a = b ∧ l = l' := by
  obtain ⟨h1, h2⟩ := List.append_inj h (by rw [ha.enc_length, hb.enc_length])
  refine ⟨?_, h2⟩
  cases a <;> cases b
  · obtain ⟨rfl, ha⟩ := ha
    obtain ⟨e, hb⟩ := hb
    cases e
    rw [beBytes_inj _ ha hb h1]
  · cases ha.1.symm.trans hb
  · cases ha.symm.trans hb.1
  · exact congrArg _ h1

theorem u64OfInt_lt (a : Int) : u64OfInt a < 256 ^ 8 := by
  unfold u64OfInt; omega

theorem u64OfInt_inj {a b : Int} (ha : -9223372036854775808 ≤ a ∧ a < 9223372036854775808)
    (hb : -9223372036854775808 ≤ b ∧ b < 9223372036854775808) (h : u64OfInt a = u64OfInt b) : a = b := by
  unfold u64OfInt at h; omega

theorem boolNat_lt (b : Bool) : boolNat b < 256 ^ 1 := by cases b <;> decide

theorem boolNat_inj {a b : Bool} (h : boolNat a = boolNat b) : a = b := by
  cases a <;> cases b <;> simp [boolNat] at h <;> rfl

/-! `τ` names the source expressions that can occur as arguments, `sh : τ → Bool × Nat` is their static type,
`e : τ → FV` the value one record gives them: `encAll (L.map e)` is what the call with argument list `L` writes. -/

/-- Go `switch v { case …: }` over (case values, payload): the first clause listing `v`; `C12.lookupCase` and
`C14.lookupCase` are this function (`lookupCase_eq`). -/
def caseOf {α : Type} (tbl : List (List Nat × α)) (v : Nat) : Option α :=
  (tbl.find? fun c => c.1.contains v).map (·.2)

theorem caseOf_mem {α : Type} {tbl : List (List Nat × α)} {v : Nat} {L : α} (h : caseOf tbl v = some L) :
    ∃ c ∈ tbl, v ∈ c.1 ∧ c.2 = L := by
  obtain ⟨c, hf, rfl⟩ := Option.map_eq_some_iff.1 h
  exact ⟨c, List.mem_of_find?_eq_some hf, by simpa using List.find?_some hf, rfl⟩

variable {τ : Type} {sh : τ → Bool × Nat} {e e' : τ → FV}

theorem encAll_length {L : List τ} (hf : ∀ x ∈ L, (e x).Fits (sh x)) :
    (encAll (L.map e)).length = (L.map fun x => (sh x).2).sum := by
  induction L with
  | nil => rfl
  | cons x L ih =>
    rw [List.forall_mem_cons] at hf
    simp [encAll, hf.1.enc_length, ih hf.2]

theorem encAll_inj {L : List τ} (hf : ∀ x ∈ L, (e x).Fits (sh x)) (hf' : ∀ x ∈ L, (e' x).Fits (sh x))
    {r r' : List UInt8} (h : encAll (L.map e) ++ r = encAll (L.map e') ++ r') :
    (∀ x ∈ L, e x = e' x) ∧ r = r' := by
  induction L with
  | nil => exact ⟨nofun, h⟩
  | cons x L ih =>
    rw [List.forall_mem_cons] at hf hf' ⊢
    simp only [List.map_cons, encAll, List.append_assoc] at h
    obtain ⟨h1, h2⟩ := hf.1.enc_append_inj hf'.1 h
    obtain ⟨h3, h4⟩ := ih hf.2 hf'.2 h2
    exact ⟨⟨h1, h3⟩, h4⟩

theorem encAll_append (l l' : List FV) : encAll (l ++ l') = encAll l ++ encAll l' := by
  induction l with
  | nil => rfl
  | cons a l ih => simp [encAll, ih]

/-- Every clause begins with the same terms `pre` and then the version `ver`, whose value determines the switch tag
(`hver`). Equal bytes ⇒ same tag ⇒ same clause ⇒ same value of every argument. -/
theorem switch_inj {tbl : List (List Nat × List τ)} {pre : List τ} {ver : τ}
    (hstart : ∀ c ∈ tbl, pre ++ [ver] <+: c.2) {v v' : Nat} (hver : e ver = e' ver → v = v')
    {L L' : List τ} (hl : caseOf tbl v = some L) (hl' : caseOf tbl v' = some L')
    (hf : ∀ x ∈ L, (e x).Fits (sh x)) (hf' : ∀ x ∈ L', (e' x).Fits (sh x))
    (h : encAll (L.map e) = encAll (L'.map e')) : v = v' ∧ L = L' ∧ ∀ x ∈ L, e x = e' x := by
  have hpre {v : Nat} {L : List τ} (hl : caseOf tbl v = some L) : pre ++ [ver] <+: L := by
    obtain ⟨c, hc, _, rfl⟩ := caseOf_mem hl
    exact hstart c hc
  have hv : v = v' := by
    obtain ⟨r, hr⟩ := hpre hl
    obtain ⟨r', hr'⟩ := hpre hl'
    rw [← hr, ← hr', List.map_append (l₂ := r), List.map_append (l₂ := r'), encAll_append, encAll_append] at h
    exact hver ((encAll_inj (fun x hx => hf x (hr ▸ List.mem_append_left r hx))
      (fun x hx => hf' x (hr' ▸ List.mem_append_left r' hx)) h).1 ver (by simp))
  subst hv
  rw [hl] at hl'
  injection hl' with hl'
  subst hl'
  exact ⟨rfl, rfl, (encAll_inj hf hf' (congrArg (· ++ []) h)).1⟩

/-- the clause of every version lists exactly the terms `sg` gives the version -/
def Exact (tbl : List (List Nat × List τ)) (sg : Nat → τ → Bool) : Prop :=
  ∀ t, ∀ c ∈ tbl, ∀ v ∈ c.1, (t ∈ c.2 ↔ sg v t)

theorem Exact.caseOf {tbl : List (List Nat × List τ)} {sg : Nat → τ → Bool} (hex : Exact tbl sg) {v : Nat}
    {L : List τ} (hl : caseOf tbl v = some L) (t : τ) : t ∈ L ↔ sg v t := by
  obtain ⟨c, hc, hv, rfl⟩ := caseOf_mem hl
  exact hex t c hc v hv

end Pool.Digest
