import PoolModel.C07
import PoolProofs.Guard
/-! Helper lemmas for C07.  In names, `cnao` is `createNewAccountOutput`. -/
namespace Pool.C07
open Pool.Gen.C07

theorem insertBy_perm (lt : α → α → Bool) (x : α) (l : List α) : (insertBy lt x l).Perm (x :: l) := by
  induction l with
  | nil => simp [insertBy]
  | cons y ys ih =>
    simp only [insertBy]
    split
    · exact (List.Perm.cons y ih).trans (List.Perm.swap x y ys)
    · exact List.Perm.refl _

theorem sortBy_perm (lt : α → α → Bool) (l : List α) : (sortBy lt l).Perm l := by
  induction l with
  | nil => simp [sortBy]
  | cons x xs ih => exact (insertBy_perm lt x _).trans (List.Perm.cons x ih)

theorem sum_map_perm {α} (f : α → Int) {l₁ l₂ : List α} (h : l₁.Perm l₂) : (l₁.map f).sum = (l₂.map f).sum := by
  simpa [List.sum_eq_foldr] using (h.map f).foldr_eq' (fun x _ y _ z => by omega) 0

theorem sumValues_perm {l₁ l₂ : List TxOut} (h : l₁.Perm l₂) : sumValues l₁ = sumValues l₂ :=
  sum_map_perm _ h

@[simp] theorem sumValues_cons (o : TxOut) (os : List TxOut) : sumValues (o :: os) = o.value + sumValues os := by
  simp [sumValues]

@[simp] theorem sumValues_nil : sumValues [] = 0 := rfl

theorem locateScript_some {s : Script} {os : List TxOut} {i : Nat} (h : locateScript s os = some i) :
    ∃ o, os[i]? = some o ∧ o.script = s := by
  induction os generalizing i with
  | nil => simp [locateScript] at h
  | cons o os ih =>
    simp only [locateScript] at h
    split at h
    · cases h; exact ⟨o, rfl, by assumption⟩
    · obtain ⟨j, hj, rfl⟩ := Option.map_eq_some_iff.mp h
      exact ih hj

theorem locateScript_isSome {s : Script} {os : List TxOut} {o : TxOut} (hm : o ∈ os) (hs : o.script = s) :
    ∃ i, locateScript s os = some i := by
  induction os with
  | nil => cases hm
  | cons x xs ih =>
    simp only [locateScript]
    split
    · exact ⟨0, rfl⟩
    · rcases List.mem_cons.mp hm with h | h
      · subst h; contradiction
      · obtain ⟨i, hi⟩ := ih h; exact ⟨i + 1, by simp [hi]⟩

theorem mem_of_getElem?_eq {α} {l : List α} {i : Nat} {x : α} (h : l[i]? = some x) : x ∈ l :=
  List.mem_of_getElem? h

theorem locateScript_unique {s : Script} {os : List TxOut} {i : Nat} {o₀ : TxOut}
    (h : locateScript s os = some i) (hu : ∀ o ∈ os, o.script = s → o = o₀) : os[i]? = some o₀ := by
  obtain ⟨o, h1, h2⟩ := locateScript_some h
  rw [h1, hu o (List.mem_of_getElem? h1) h2]

theorem applyMods_append (a : Account) (m1 m2 : List Modifier) :
    applyMods a (m1 ++ m2) = applyMods (applyMods a m1) m2 := by
  simp [applyMods, List.foldl_append]

theorem cnao_applyMods (so : ScriptOf) (a : Account) (v : Int) (ne : Option UInt32) (nv : Nat) :
    applyMods a (createNewAccountOutput so a v ne nv).2
      = { a with value := v, batchCtr := a.batchCtr + 1, expiry := ne.getD a.expiry, version := max a.version nv } := by
  unfold createNewAccountOutput
  by_cases hv : nv > a.version
  · rw [if_pos hv, Nat.max_eq_right (Nat.le_of_lt hv)]; cases ne <;> rfl
  · rw [if_neg hv, Nat.max_eq_left (Nat.le_of_not_lt hv)]; cases ne <;> rfl

theorem cnao_fst (so : ScriptOf) (a : Account) (v : Int) (ne : Option UInt32) (nv : Nat) :
    (createNewAccountOutput so a v ne nv).1 = ⟨v, so (max a.version nv) (ne.getD a.expiry) (a.batchCtr + 1)⟩ := by
  change (applyMods a (createNewAccountOutput so a v ne nv).2).output so = _
  rw [cnao_applyMods]; rfl

theorem applyMods_stored (a : Account) (ms : List Modifier) (s idx : Nat) (best : UInt32) :
    applyMods a (ms ++ [.state s] ++ [.outPoint idx] ++ [.heightHint best, .latestTx])
      = { applyMods a ms with state := s, outPoint := ⟨selfHash, idx⟩, heightHint := best } := by
  simp [applyMods, List.foldl_append, Modifier.apply]

theorem checkOutputRange_ok {tot : Int} {os : List TxOut} (h : checkOutputRange tot os = .ok ()) :
    ∀ o ∈ os, 0 ≤ o.value ∧ o.value ≤ maxSatoshi := by
  induction os generalizing tot with
  | nil => intro o ho; cases ho
  | cons x xs ih =>
    unfold checkOutputRange at h
    obtain ⟨h1, h⟩ := ite_error_eq_ok.mp h
    obtain ⟨h2, h⟩ := ite_error_eq_ok.mp h
    obtain ⟨_, h⟩ := ite_error_eq_ok.mp h
    exact List.forall_mem_cons.mpr ⟨⟨Int.not_lt.mp h1, Int.not_lt.mp h2⟩, ih h⟩

theorem hasDup_false_nodup {l : List OutPoint} (h : hasDupInputs l = false) : l.Nodup := by
  induction l with
  | nil => exact List.nodup_nil
  | cons p ps ih =>
    simp only [hasDupInputs, Bool.or_eq_false_iff] at h
    exact List.nodup_cons.mpr ⟨by simpa using h.1, ih h.2⟩

theorem sanityCheck_ok {a : Account} {tx : Tx} {wt : Nat} (h : sanityCheck a tx wt = .ok ()) :
    (∀ o ∈ tx.outputs, isDustOutput o = false ∧ 0 ≤ o.value) ∧ (tx.inputs.map (·.prev)).Nodup ∧
    ∃ inTotal w, sanityInputs a wt tx.inputs 0 0 = .ok (inTotal, w) ∧ sumValues tx.outputs ≤ inTotal ∧
      feeForWeight FeePerKwFloor (fullWeight tx w) ≤ inTotal - sumValues tx.outputs := by
  unfold sanityCheck at h
  obtain ⟨_, h⟩ := ite_error_eq_ok.mp h
  obtain ⟨_, h⟩ := ite_error_eq_ok.mp h
  split at h
  · cases h
  rename_i hrange
  obtain ⟨hdup, h⟩ := ite_error_eq_ok.mp h
  obtain ⟨hdust, h⟩ := ite_error_eq_ok.mp h
  split at h
  · cases h
  rename_i inTotal w hin
  obtain ⟨hle, h⟩ := ite_error_eq_ok.mp h
  obtain ⟨hfloor, _⟩ := ite_error_eq_ok.mp h
  have hdust : ∀ o ∈ tx.outputs, isDustOutput o = false := by simpa using hdust
  exact ⟨fun o ho => ⟨hdust o ho, (checkOutputRange_ok hrange o ho).1⟩,
    hasDup_false_nodup (by simpa using hdup),
    inTotal, w, hin, Int.not_lt.mp hle, Int.not_lt.mp hfloor⟩

theorem sanityInputs_single {so : ScriptOf} {a : Account} {wt : Nat} {x : Int} {w : Nat}
    (h : sanityInputs a wt [a.txIn so] 0 0 = .ok (x, w)) : x = a.value ∧ witnessSize wt = some w := by
  simp only [sanityInputs, Account.txIn, if_true] at h
  split at h
  · cases h
  · rename_i aw hw
    cases h
    exact ⟨Int.zero_add _, by rw [hw, Nat.zero_add]⟩

/-- stated over the outputs handed to `createSpendTx`, not over the sorted list the transaction carries -/
theorem sanityCheck_acctSpend {so : ScriptOf} {a : Account} {outs : List TxOut} {lock wt : Nat}
    (h : sanityCheck a { createSpendTx so a outs with lockTime := lock } wt = .ok ()) :
    (∀ o ∈ outs, isDustOutput o = false ∧ 0 ≤ o.value) ∧ sumValues outs ≤ a.value ∧
    ∃ w, witnessSize wt = some w ∧
      feeForWeight FeePerKwFloor (fullWeight { createSpendTx so a outs with lockTime := lock } w)
        ≤ a.value - sumValues outs := by
  obtain ⟨hout, _, inT, w, hin, hle, hfloor⟩ := sanityCheck_ok h
  obtain ⟨rfl, hw⟩ := sanityInputs_single hin
  have hperm := sortBy_perm outLt outs
  have hsum := sumValues_perm hperm
  exact ⟨fun o ho => hout o (hperm.mem_iff.mpr ho), hsum ▸ hle, w, hw, hsum ▸ hfloor⟩

end Pool.C07
