import PoolProofs.C10LemmasTlv
import PoolProofs.C10LemmasTx
/-! Account round trip: the version bit carried in the state byte, the state-dependent `LatestTx`, the TLV tail. -/
namespace Pool.C10
open Pool.Gen

/-- every defined account state leaves the version bit free (regenerated list) -/
theorem accountStates_lt : ∀ s ∈ Store.accountStates.map (·.2), s < 128 := by decide +kernel

/-- `versionMask` is 128 (regenerated) -/
theorem versionBit_facts : ∀ s < 128, s ||| versionMask < 256 ∧
    clearVersionBit (s ||| versionMask) = s ∧ clearVersionBit s = s ∧
    isVersioned (s ||| versionMask) = true ∧ isVersioned s = false := by decide +kernel

theorem rawState_lt (a : Account) (h : a.state < 128) : WFu8 (rawState a) := by
  unfold rawState WFu8
  split
  · exact (versionBit_facts _ h).1
  · omega

theorem clearVersionBit_rawState (a : Account) (h : a.state < 128) : clearVersionBit (rawState a) = a.state := by
  unfold rawState
  split
  · exact (versionBit_facts _ h).2.1
  · exact (versionBit_facts _ h).2.2.1

theorem isVersioned_rawState (a : Account) (h : a.state < 128) : isVersioned (rawState a) = decide (a.version > 0) := by
  unfold rawState
  split <;> rename_i hv
  · rw [(versionBit_facts _ h).2.2.2.1, decide_eq_true hv]
  · rw [(versionBit_facts _ h).2.2.2.2, decide_eq_false hv]

theorem noLatestTx_agree : Store.noLatestTx_serializeAccount = Store.noLatestTx_deserializeAccount := by decide +kernel

theorem storesLatestTx_agree (s : Nat) : storesLatestTxDe s = storesLatestTxSer s := by
  unfold storesLatestTxDe storesLatestTxSer; rw [noLatestTx_agree]

theorem Account.WF.state {a : Account} (h : a.WF) : a.state ∈ Store.accountStates.map (·.2) := h.2.2.2.2.2.2.1
theorem Account.WF.outPoint {a : Account} (h : a.WF) : a.outPoint.WF := h.2.2.2.2.2.2.2.2.1
theorem Account.WF.version {a : Account} (h : a.WF) : WFu8 a.version := h.2.2.2.2.2.2.2.2.2.1
theorem Account.WF.latestTx {a : Account} (h : a.WF) : latestTxWF a.latestTx (storesLatestTxSer a.state) :=
  h.2.2.2.2.2.2.2.2.2.2

theorem acct_base_rt (a : Account) (h : a.WF) :
    Reads (decFields acctTbl (elemList "deserializeAccount" 0) Account.empty)
      (encFields acctTbl (elemList "serializeAccount" 0) a)
      { a with state := rawState a, latestTx := none, version := 0 } := by
  obtain ⟨hval, hexp, htk, hak, hbk, hsec, hst, hhh, hop, -, -⟩ := h
  exact .fields_cons rfl rfl ((readU64_rt hval).map _) <|
    .fields_cons rfl rfl ((readU32_rt hexp).map _) <|
    .fields_cons rfl rfl ((readKeyDesc_rt htk).map _) <|
    .fields_cons rfl rfl ((readPubKey_rt hak).map _) <|
    .fields_cons rfl rfl ((readPubKey_rt hbk).map _) <|
    .fields_cons rfl rfl ((Reads.take hsec).map _) <|
    .fields_cons rfl rfl ((readU8_rt (rawState_lt a (accountStates_lt _ hst))).map _) <|
    .fields_cons rfl rfl ((readU32_rt hhh).map _) <|
    .fields_cons rfl rfl ((readOutPoint_rt hop).map _) .fields_nil

/-- `r` is the account as read so far: it has no `LatestTx` yet, so in a state that stores none it is the result -/
theorem acct_tx_rt (a r : Account) (h : latestTxWF a.latestTx (storesLatestTxSer a.state)) (hr : r.latestTx = none) :
    Reads (if storesLatestTxDe a.state then decFields acctTbl (elemList "deserializeAccount" 1) r else pure r)
      (if storesLatestTxSer a.state then encFields acctTbl (elemList "serializeAccount" 1) a else [])
      { r with latestTx := a.latestTx } := by
  rw [storesLatestTx_agree]
  cases hl : a.latestTx with
  | none =>
    rw [hl] at h
    rw [show storesLatestTxSer a.state = false from h, ← hr]
    exact .pure_nil r
  | some t =>
    rw [hl] at h
    rw [h.1, if_pos rfl, if_pos rfl]
    refine .fields_cons rfl rfl ?_ .fields_nil
    simp only [hl]
    exact (readTx_rt h.2).map _

theorem acct_tlv_rt (a r : Account) (hv : WFu8 a.version) :
    Reads (deserializeAccountTlvData r) (serializeAccountTlvData a) { r with version := a.version } := by
  -- (R) the stream is one row, the version byte under type 0: three bytes (type, length, value)
  have hrows : tlvRecsOf "serializeAccountTlvData" (acctTlvVars a) =
      TlvRows.recs [(0, some (.u8, .num (a.version % 256)))] := rfl
  obtain ⟨m, hdec, hm⟩ := tlvRows_decode [(0, some (.u8, .num (a.version % 256)))]
    (tlvKnownOf "deserializeAccountTlvData" acctTlvKinds) (List.pairwise_singleton _ _) (by
      simp only [List.forall_mem_singleton, Option.mem_def, Option.some.injEq, forall_eq']
      exact ⟨⟨show WFu64 0 by decide, Nat.mod_lt _ (by decide)⟩, by decide +kernel⟩)
  have hlen : (encStream (tlvRecsOf "serializeAccountTlvData" (acctTlvVars a))).length = 3 := rfl
  refine (readU32_rt (by rw [hlen]; decide)).bind ((Reads.take rfl).bind_nil ?_)
  -- the decoder's last step is a function of the bytes left, not a `do` block; it reads `uint8(a.Version)`
  intro rest
  simp only [hrows, hdec, parsedNum, show tlvType "accountVersionType" = 0 by decide +kernel, hm _ List.mem_cons_self]
  exact congrArg (fun v => Res.ok { r with version := v } rest) (Nat.mod_eq_of_lt hv)

/-- any bytes may follow: accounts are nested in snapshots -/
theorem account_rt (a : Account) (h : a.WF) : (serializeAccount a).ReadBy deserializeAccount a := by
  have hs128 : a.state < 128 := accountStates_lt _ h.state
  have hltx := h.latestTx
  have hwr : outPointWritable a.outPoint = true := decide_eq_true (Nat.le_of_lt_succ h.outPoint.2)
  have hnil : (storesLatestTxSer a.state && a.latestTx.isNone) = false := by
    cases hl : a.latestTx with
    | none => rw [hl] at hltx; rw [show storesLatestTxSer a.state = false from hltx]; rfl
    | some t => exact Bool.and_false _
  refine ⟨_, by unfold serializeAccount; rw [hwr, hnil]; rfl, ?_⟩
  rw [List.append_assoc]
  refine (acct_base_rt a h).bind ?_
  simp only [clearVersionBit_rawState a hs128, isVersioned_rawState a hs128]
  refine (acct_tx_rt a _ hltx rfl).bind ?_
  by_cases hv : a.version > 0
  · rw [if_pos hv, if_pos (decide_eq_true hv)]
    exact acct_tlv_rt a _ h.version
  · rw [if_neg hv, if_neg (by simpa using hv)]
    cases a
    cases Nat.eq_zero_of_not_pos hv
    exact .pure_nil _

end Pool.C10
