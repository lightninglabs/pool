import PoolModel.C18
import Mathlib.Algebra.Group.Int.Defs
/-! C18: `copyN`, backoff arithmetic; conservation and routing invariant of the switch. -/
namespace Pool.C18

theorem copyN_of_length {n : Nat} {src : Bytes} (h : src.length = n) : copyN n src = src := by
  simp [copyN, h, List.take_of_length_le (Nat.le_of_eq h)]

theorem wrap64_id {x : Int} (h1 : -9223372036854775808 ≤ x) (h2 : x < 9223372036854775808) : wrap64 x = x := by
  unfold wrap64; omega

/-- inside the guard the int64 doubling cannot wrap and the update is `min (2b) max` -/
theorem nextBackoff_eq {minB maxB b : Int} (hb : 0 < b) (hbm : b ≤ maxB) (hmax : maxB < 2 ^ 62) :
    nextBackoff minB maxB b = min (b * 2) maxB := by
  have hw : wrap64 (b * 2) = b * 2 := wrap64_id (by omega) (by omega)
  have : b * 2 ≠ 0 := by omega
  simp only [nextBackoff, hw, this, if_false]
  omega

theorem nextBackoff_min {minB maxB a : Int} (ha : 0 < a) (h0 : 0 < maxB) (hmax : maxB < 2 ^ 62) :
    nextBackoff minB maxB (min a maxB) = min (a * 2) maxB := by
  rcases Int.le_total a maxB with h | h
  · rw [Int.min_eq_left h, nextBackoff_eq ha h hmax]
  · rw [Int.min_eq_right h, nextBackoff_eq h0 (Int.le_refl _) hmax, Int.min_eq_right (by omega),
      Int.min_eq_right (by omega)]

theorem nextBackoff_zero {minB maxB : Int} (h1 : minB ≤ maxB) : nextBackoff minB maxB 0 = minB := by
  unfold nextBackoff wrap64
  dsimp only
  omega

/-- stated for a start `min a max`, so that the induction hypothesis applies to the doubled and capped backoff -/
theorem connLoop_shape {minB maxB : Int} (h0 : 0 < maxB) (hmax : maxB < 2 ^ 62) :
    ∀ (f r : Nat) (a : Int), 0 < a → f < r →
      connLoop minB maxB r f (min a maxB) =
        ⟨(List.range (f + 1)).map (fun i => min (a * 2 ^ i) maxB),
         (List.range f).map (fun i => min (a * 2 ^ (i + 1)) maxB), true⟩
  | f, 0, _, _, hr => absurd hr (Nat.not_lt_zero f)
  | 0, r + 1, a, ha, _ => by
    have : min a maxB ≠ 0 := by omega
    simp [connLoop, this]
  | f + 1, r + 1, a, ha, hr => by
    have : min a maxB ≠ 0 := by omega
    have ih := connLoop_shape (minB := minB) h0 hmax f r (a * 2) (by omega) (by omega)
    -- `a * 2 * 2 ^ i = a * 2 ^ (i + 1)`
    simp only [mul_assoc, ← pow_succ'] at ih
    simp [connLoop, this, nextBackoff_min ha h0 hmax, ih, List.range_succ_eq_map, Function.comp_def]

@[elab_as_elim]
theorem Switch.step_elim {P : Act → Switch → Prop} (s : Switch)
    (send : ∀ e, P (.send e) { s with pending := s.pending ++ [e] })
    (recv : ∀ i e, s.held = none → s.inflight = none → s.pending[i]? = some e →
      P (.recv i) { s with held := some e, pending := s.pending.eraseIdx i })
    (lock : ∀ e, s.held = some e → s.inflight = none →
      P .lock { s with held := none, inflight := some (e, s.target, s.diverted) })
    (deliver : ∀ x, s.inflight = some x → P .deliver { s with inflight := none, delivered := s.delivered ++ [x] })
    (divert : ∀ c, s.inflight = none → P (.divert c) { s with diverted := true, tempChan := some c })
    (restore : s.inflight = none → P .restore { s with diverted := false, tempChan := none })
    {a : Act} {s' : Switch} (h : s.step a = some s') : P a s' := by
  cases a <;> simp only [Switch.step] at h
  case send => cases h; exact send _
  all_goals split at h <;> cases h
  · exact recv _ _ ‹_› ‹_› ‹_›
  · exact lock _ ‹_› ‹_›
  · exact deliver _ ‹_›
  · exact divert _ ‹_›
  · exact restore ‹_›

theorem sentOf_cons (a : Act) (as : List Act) : sentOf (a :: as) = sentOf [a] ++ sentOf as := by
  cases a <;> rfl

/-- a `send` is always enabled -/
theorem sentOf_of_disabled {s : Switch} {a : Act} (h : s.step a = none) : sentOf [a] = [] := by
  cases a with
  | send e => cases h
  | _ => rfl

theorem Switch.run_induction {I : Switch → List Nat → Prop}
    (hstep : ∀ {s s' a l}, I s l → s.step a = some s' → I s' (l ++ sentOf [a])) :
    ∀ (as : List Act) {s : Switch} {l : List Nat}, I s l → I (s.run as) (l ++ sentOf as)
  | [], _, _, h => by simpa [Switch.run, sentOf] using h
  | a :: as, s, l, h => by
    rw [sentOf_cons, ← List.append_assoc, Switch.run]
    cases hs : s.step a with
    | some s' => exact run_induction hstep as (hstep h hs)
    | none => rw [sentOf_of_disabled hs, List.append_nil]; exact run_induction hstep as h

theorem perm_eraseIdx {α} {l : List α} {i : Nat} {e : α} (h : l[i]? = some e) : List.Perm l (e :: l.eraseIdx i) := by
  obtain ⟨hi, rfl⟩ := List.getElem?_eq_some_iff.mp h
  calc l = l.take i ++ l[i] :: l.drop (i + 1) := by rw [← List.drop_eq_getElem_cons hi, List.take_append_drop]
    List.Perm _ (l[i] :: (l.take i ++ l.drop (i + 1))) := List.perm_middle
    _ = l[i] :: l.eraseIdx i := by rw [List.eraseIdx_eq_take_drop_succ]

theorem step_conserves {s s' : Switch} {a : Act} {l : List Nat}
    (hI : List.Perm l (s.inside ++ s.delivered.map (·.1))) (h : s.step a = some s') :
    List.Perm (l ++ sentOf [a]) (s'.inside ++ s'.delivered.map (·.1)) := by
  rw [List.perm_iff_count] at hI ⊢
  intro x
  have hx := hI x
  simp only [Switch.inside, List.count_append] at hx ⊢
  refine s.step_elim ?_ ?_ ?_ ?_ ?_ ?_ h
  · intro e
    simp only [sentOf, List.count_append]
    omega
  · intro i e hh hi hp
    have := (perm_eraseIdx hp).count_eq x
    simp only [hh, hi, sentOf, Option.toList, List.map_nil, List.count_nil, List.count_cons] at this hx ⊢
    omega
  · intro e hh hi
    simp only [hh, hi, sentOf, Option.toList, List.map_nil, List.map_cons, List.count_nil] at hx ⊢
    omega
  · intro y hi
    simp only [hi, sentOf, Option.toList, List.map_nil, List.map_cons, List.map_append, List.count_append,
      List.count_nil] at hx ⊢
    omega
  · intro c hi
    simpa [sentOf] using hx
  · intro hi
    simpa [sentOf] using hx

/-- a recorded hand-over `x` = (error, target, `diverted` when `run` took the mutex for it) went to a temporary channel
iff `diverted` was set -/
def RouteOK (x : Nat × Target × Bool) : Prop := (∃ c, x.2.1 = Target.temp c) ↔ x.2.2 = true

/-- the routing invariant: every target chosen so far is `RouteOK`; to keep that at the next `lock` it needs
`diverted → tempChan ≠ nil`, which `Divert`/`Restore` maintain. -/
structure SwInv (s : Switch) : Prop where
  temp : s.diverted = true → s.tempChan.isSome
  inflight : ∀ x, s.inflight = some x → RouteOK x
  delivered : ∀ x ∈ s.delivered, RouteOK x

theorem swInv_step {s s' : Switch} {a : Act} (hi : SwInv s) (h : s.step a = some s') : SwInv s' := by
  refine s.step_elim ?_ ?_ ?_ ?_ ?_ ?_ h
  · exact fun _ => { hi with }
  · exact fun _ _ _ _ _ => { hi with }
  · -- the target is fixed under the mutex
    refine fun e _ _ => { hi with inflight := ?_ }
    rintro x ⟨rfl⟩
    unfold RouteOK Switch.target
    cases hd : s.diverted with
    | false => simp
    | true =>
      obtain ⟨c, hc⟩ := Option.isSome_iff_exists.mp (hi.temp hd)
      simp [hc]
  · intro y hy
    refine { hi with inflight := by simp, delivered := ?_ }
    intro x hx
    rcases List.mem_append.mp hx with hx | hx
    · exact hi.delivered x hx
    · rw [List.mem_singleton.mp hx]; exact hi.inflight y hy
  · exact fun c hn => { hi with temp := fun _ => rfl, inflight := by simp [hn] }
  · exact fun hn => { hi with temp := by simp, inflight := by simp [hn] }

end Pool.C18
