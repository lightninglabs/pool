import PoolModel.C12
import PoolProofs.DigestLemmas
/-! The regenerated tables are evaluated once (`askTable_eq`, `bidTable_eq`, `server*Map_eq`); everything else
reasons about the literals.  Asks and bids are treated together through `sideLit`; what a version signs is
`signs`, and `sideLit_exact` ties it to the clause the version selects; `Term.agree` says that two orders have the
same value in the field a term reads. -/
namespace Pool.C12
open Pool.Digest

def v0Terms : List Term := [.nonce, .version, .fixedRate, .amt, .leaseDuration, .maxBatchFeeRate]

def askLit : Table :=
    [([0], v0Terms),
     ([1, 2, 3, 4], v0Terms ++ [.minUnitsMatch32]),
     ([5], v0Terms ++ [.minUnitsMatch32, .channelType])]

def bidLit : Table :=
    [([0], v0Terms),
     ([1, 2], v0Terms ++ [.minNodeTier, .minUnitsMatch32]),
     ([3], v0Terms ++ [.minNodeTier, .minUnitsMatch32, .selfChanBalance]),
     ([4], v0Terms ++ [.minNodeTier, .minUnitsMatch32, .selfChanBalance, .isSidecar]),
     ([5], v0Terms ++ [.minNodeTier, .minUnitsMatch32, .selfChanBalance, .isSidecar, .channelType])]

/-- The `Ask.Digest` / `Bid.Digest` switches regenerated from the Go source compile to these literals: a changed
argument list fails here. -/
theorem askTable_eq : askTable = some askLit := by decide +kernel

theorem bidTable_eq : bidTable = some bidLit := by decide +kernel

def sideLit (isBid : Bool) : Table := if isBid then bidLit else askLit

theorem digestPreimage_eq (o : Order) : digestPreimage o = preimageOf (some (sideLit o.isBid)) o := by
  rw [digestPreimage, askTable_eq, bidTable_eq, sideLit]
  split <;> rfl

/-- whether version `v` of a side defines the term; `terms` reads exactly the fields of the terms it defines
(`terms_eq_of_agree`) -/
def signs (isBid : Bool) (v : Nat) : Term → Bool
  | .nonce | .version | .fixedRate | .amt | .leaseDuration | .maxBatchFeeRate => true
  | .minUnitsMatch32 => v ≥ 1
  | .minNodeTier => isBid && v ≥ 1
  | .selfChanBalance => isBid && v ≥ 3
  | .isSidecar => isBid && v ≥ 4
  | .channelType => v ≥ 5
  | .state | .units | .unitsUnfulfilled | .minUnitsMatch64 | .auctionType => false

theorem sideLit_exact (isBid : Bool) : Exact (sideLit isBid) (signs isBid) := fun t => by
  cases isBid <;> cases t <;> decide +kernel

theorem sideLit_start (isBid : Bool) : ∀ c ∈ sideLit isBid, [Term.nonce, Term.version] <+: c.2 := by
  cases isBid <;> decide

def I64 (a : Int) : Prop := -9223372036854775808 ≤ a ∧ a < 9223372036854775808

/-- what the Go field types guarantee -/
structure TypeWF (o : Order) : Prop where
  nonce : o.nonce.length = 32
  version : o.version < 4294967296
  state : o.state < 256
  fixedRate : o.fixedRate < 4294967296
  amt : I64 o.amt
  units : o.units < 18446744073709551616
  unitsUnfulfilled : o.unitsUnfulfilled < 18446744073709551616
  fee : I64 o.maxBatchFeeRate
  lease : o.leaseDuration < 4294967296
  minUnits : o.minUnitsMatch < 18446744073709551616
  channelType : o.channelType < 256
  auctionType : o.auctionType < 4294967296
  tier : o.minNodeTier < 4294967296
  scb : I64 o.selfChanBalance

/-- the cast guard of `uint32(MinUnitsMatch)`: the minimum match fits 32 bits (orders built by
`ParseRPCOrder` always satisfy it: `poolrpc.Order.MinUnitsMatch` is a uint32) -/
def MinMatchFits32 (o : Order) : Prop := o.minUnitsMatch < 4294967296

def Term.shape : Term → Bool × Nat
  | .nonce => (true, 32)
  | .channelType | .isSidecar | .state => (false, 1)
  | .version | .fixedRate | .leaseDuration | .minUnitsMatch32 | .minNodeTier | .auctionType => (false, 4)
  | .amt | .maxBatchFeeRate | .selfChanBalance | .units | .unitsUnfulfilled | .minUnitsMatch64 => (false, 8)

theorem encTerm_fits {o : Order} (h : TypeWF o) (hm : MinMatchFits32 o) (t : Term) :
    (encTerm o t).Fits t.shape := by
  cases t <;> try refine ⟨rfl, ?_⟩
  case nonce => exact congrArg _ h.nonce.symm
  case version => exact h.version
  case fixedRate => exact h.fixedRate
  case leaseDuration => exact h.lease
  case minUnitsMatch32 => exact hm
  case channelType => exact h.channelType
  case minNodeTier => exact h.tier
  case amt | maxBatchFeeRate | selfChanBalance => exact u64OfInt_lt _
  case isSidecar => exact boolNat_lt _
  case state => exact h.state
  case units => exact h.units
  case unitsUnfulfilled => exact h.unitsUnfulfilled
  case minUnitsMatch64 => exact h.minUnits
  case auctionType => exact h.auctionType

theorem lookupCase_eq (tbl : Table) (v : Nat) : lookupCase tbl v = caseOf tbl v := rfl

theorem preimageOf_ok {tbl : Table} {o : Order} {p : Bytes} (hp : preimageOf (some tbl) o = .ok p) :
    ∃ L, caseOf tbl o.version = some L ∧ p = encAll (L.map (encTerm o)) := by
  simp only [preimageOf, lookupCase_eq] at hp
  cases hl : caseOf tbl o.version with
  | none => simp [hl] at hp
  | some L => simp only [hl] at hp; injection hp with hp; exact ⟨L, rfl, hp.symm⟩

theorem preimageOf_congr {tbl : Table} {sg : Nat → Term → Bool} (hex : Exact tbl sg) {a b : Order}
    (hv : a.version = b.version) (h : ∀ t, sg b.version t → encTerm a t = encTerm b t) :
    preimageOf (some tbl) a = preimageOf (some tbl) b := by
  simp only [preimageOf, lookupCase_eq, hv]
  cases hl : caseOf tbl b.version with
  | none => rfl
  | some L => simp only [List.map_congr_left fun t ht => h t ((hex.caseOf hl t).1 ht)]

theorem preimageOf_inj {tbl : Table} (hstart : ∀ c ∈ tbl, [Term.nonce, Term.version] <+: c.2)
    {sg : Nat → Term → Bool} (hex : Exact tbl sg) {o o' : Order} (h : TypeWF o) (h' : TypeWF o')
    (hm : MinMatchFits32 o) (hm' : MinMatchFits32 o') {p : Bytes} (hp : preimageOf (some tbl) o = .ok p)
    (hp' : preimageOf (some tbl) o' = .ok p) :
    o.version = o'.version ∧ ∀ t, sg o.version t → encTerm o t = encTerm o' t := by
  obtain ⟨L, hl, rfl⟩ := preimageOf_ok hp
  obtain ⟨L', hl', e⟩ := preimageOf_ok hp'
  obtain ⟨hv, -, hall⟩ := switch_inj (pre := [Term.nonce]) hstart (fun e => (FV.num.inj e).2) hl hl'
    (fun t _ => encTerm_fits h hm t) (fun t _ => encTerm_fits h' hm' t) e
  exact ⟨hv, fun t ht => hall t ((hex.caseOf hl t).2 ht)⟩

/-- the order terms the property lists; a term a version does not define is `none` -/
structure Terms where
  isBid : Bool
  nonce : Bytes
  version : Nat
  rate : Nat
  amt : Int
  lease : Nat
  fee : Int
  minMatch : Option Nat          -- from v1
  nodeTier : Option Nat          -- bids, from v1
  selfChanBalance : Option Int   -- bids, from v3
  sidecar : Option Bool          -- bids, from v4
  channelType : Option Nat       -- from v5
deriving DecidableEq, Repr

def terms (o : Order) : Terms :=
  { isBid := o.isBid, nonce := o.nonce, version := o.version, rate := o.fixedRate, amt := o.amt,
    lease := o.leaseDuration, fee := o.maxBatchFeeRate,
    minMatch := if o.version ≥ 1 then some o.minUnitsMatch else none,
    nodeTier := if o.isBid ∧ o.version ≥ 1 then some o.minNodeTier else none,
    selfChanBalance := if o.isBid ∧ o.version ≥ 3 then some o.selfChanBalance else none,
    sidecar := if o.isBid ∧ o.version ≥ 4 then some o.sidecar else none,
    channelType := if o.version ≥ 5 then some o.channelType else none }

def Term.agree (o o' : Order) : Term → Prop
  | .nonce => o.nonce = o'.nonce
  | .version => o.version = o'.version
  | .fixedRate => o.fixedRate = o'.fixedRate
  | .amt => o.amt = o'.amt
  | .leaseDuration => o.leaseDuration = o'.leaseDuration
  | .maxBatchFeeRate => o.maxBatchFeeRate = o'.maxBatchFeeRate
  | .minUnitsMatch32 | .minUnitsMatch64 => o.minUnitsMatch = o'.minUnitsMatch
  | .channelType => o.channelType = o'.channelType
  | .minNodeTier => o.minNodeTier = o'.minNodeTier
  | .selfChanBalance => o.selfChanBalance = o'.selfChanBalance
  | .isSidecar => o.sidecar = o'.sidecar
  | .state => o.state = o'.state
  | .units => o.units = o'.units
  | .unitsUnfulfilled => o.unitsUnfulfilled = o'.unitsUnfulfilled
  | .auctionType => o.auctionType = o'.auctionType

theorem encTerm_congr {o o' : Order} {t : Term} (e : t.agree o o') : encTerm o t = encTerm o' t := by
  cases t <;> dsimp only [Term.agree] at e <;> simp only [encTerm, e]

theorem encTerm_inj {o o' : Order} (h : TypeWF o) (h' : TypeWF o') {t : Term}
    (e : encTerm o t = encTerm o' t) : t.agree o o' := by
  cases t <;> simp only [encTerm, FV.raw.injEq, FV.num.injEq, true_and] at e <;> try exact e
  case amt => exact u64OfInt_inj h.amt h'.amt e
  case maxBatchFeeRate => exact u64OfInt_inj h.fee h'.fee e
  case selfChanBalance => exact u64OfInt_inj h.scb h'.scb e
  case isSidecar => exact boolNat_inj e

theorem ite_some_congr {α : Type} {c : Prop} [Decidable c] {a b : α} (h : c → a = b) :
    (if c then some a else none) = if c then some b else none := by
  split
  · rw [h ‹c›]
  · rfl

theorem terms_eq_of_agree {o o' : Order} (hside : o.isBid = o'.isBid) (hv : o.version = o'.version)
    (hall : ∀ t, signs o.isBid o.version t → t.agree o o') : terms o = terms o' := by
  unfold terms
  rw [← hside, ← hv]
  congr 1
  · exact hall .nonce rfl
  · exact hall .fixedRate rfl
  · exact hall .amt rfl
  · exact hall .leaseDuration rfl
  · exact hall .maxBatchFeeRate rfl
  · exact ite_some_congr fun c => hall .minUnitsMatch32 (by simp [signs, c])
  · exact ite_some_congr fun c => hall .minNodeTier (by simp [signs, c])
  · exact ite_some_congr fun c => hall .selfChanBalance (by simp [signs, c])
  · exact ite_some_congr fun c => hall .isSidecar (by simp [signs, c])
  · exact ite_some_congr fun c => hall .channelType (by simp [signs, c])

theorem serverOrderMap_eq : serverOrderMap = some
    [(.traderKey, .acctKey), (.auctionType, .auctionTypeEnum), (.rateFixed, .fixedRate), (.amt, .amtU64),
     (.minChanAmt, .minChanAmt), (.orderNonce, .nonce), (.orderSig, .rawSig),
     (.multiSigKey, .paramMultiSig), (.nodePub, .paramNodePub),
     (.channelType, .channelTypeEnum), (.maxBatchFeeRate, .feeU64), (.isPublic, .isPublic)] := by
  decide +kernel

theorem serverAskMap_eq : serverAskMap = some
    [(.leaseDurationBlocks, .leaseDuration), (.version, .versionU32),
     (.announcement, .announcement), (.confirmation, .confirmations)] := by decide +kernel

theorem serverBidMap_eq : serverBidMap = some
    [(.leaseDurationBlocks, .leaseDuration), (.version, .versionU32),
     (.minNodeTier, .nodeTierEnum), (.selfChanBalance, .scbU64), (.isSidecarChannel, .sidecarNonNil),
     (.unannounced, .unannounced), (.zeroConf, .zeroConf)] := by decide +kernel

/-- channel type: SubmitOrder's switch followed by ParseRPCServerOrder's switch is the identity on the
three defined channel types (over the regenerated tables) -/
theorem chan_roundtrip : ∀ ct ≤ 2,
    (Gen.C12.submitChannelType.lookup ct).bind (Gen.C12.parseChannelType.lookup ·) = some ct := by decide

/-- node tier: MarshallNodeTier is invertible on the three defined tiers -/
theorem tier_roundtrip : ∀ t ≤ 2, (Gen.C12.marshallNodeTier.lookup t).bind unmarshallNodeTier = some t := by
  decide

theorem wrapI64_u64OfInt {a : Int} (h : I64 a) : wrapI64 (u64OfInt a) = a := by
  unfold wrapI64 u64OfInt I64 at *; omega

theorem minChan_roundtrip {m : Nat} (h : m * 100000 < 18446744073709551616) :
    m * base % two64 / base = m := by
  have hb : base = 100000 := by decide
  rw [hb, two64, Nat.mod_eq_of_lt h, Nat.mul_div_cancel _ (by decide)]

/-- an order `SubmitOrder` can send without wrap-around: Go field types, `MinUnitsMatch · 100000` fits
uint64, channel type and (for bids) node tier are defined enum values -/
structure Sendable (o : Order) : Prop where
  wf : TypeWF o
  minChan : o.minUnitsMatch * 100000 < 18446744073709551616
  chan : o.channelType ≤ 2
  tier : o.isBid = true → o.minNodeTier ≤ 2

/-- agreement on every field the digest of SOME version reads (all `v`, not the orders' own version) -/
def sameSigned (a b : Order) : Prop := a.isBid = b.isBid ∧ ∀ v t, signs b.isBid v t → t.agree a b

theorem terms_congr {a b : Order} (h : sameSigned a b) : terms a = terms b :=
  terms_eq_of_agree h.1 (h.2 0 .version rfl) fun t ht => h.2 _ t (h.1 ▸ ht)

theorem digestPreimage_congr {a b : Order} (h : sameSigned a b) : digestPreimage a = digestPreimage b := by
  rw [digestPreimage_eq, digestPreimage_eq, h.1]
  exact preimageOf_congr (sideLit_exact _) (h.2 0 .version rfl) fun t ht => encTerm_congr (h.2 _ t ht)

theorem prepareOrderSig_ok {H : Bytes → Bytes} {o : Order} {k : Nat} {σ : Sig}
    (h : prepareOrderSig H o k = .ok σ) : σ.signer = k ∧ digest H o = .ok σ.msg := by
  unfold prepareOrderSig at h
  cases hd : digest H o with
  | error e => simp [hd, Except.map] at h
  | ok m =>
    simp only [hd, Except.map] at h
    cases h
    exact ⟨rfl, rfl⟩

theorem wire_roundtrip (o : Order) (p : Params) (hs : Sendable o) :
    ∃ d s, toWire o p = .ok (d, s) ∧ wbytes d .orderSig = some p.rawSig ∧
      wbytes d .traderKey = some o.acctKey ∧ ∃ o', orderOfWire o.isBid d s = some o' ∧ sameSigned o' o := by
  obtain ⟨n, hc1, hc2⟩ := Option.bind_eq_some_iff.1 (chan_roundtrip _ hs.chan)
  rw [toWire, serverOrderMap_eq]
  cases hb : o.isBid
  · simp only [Bool.false_eq_true, if_false, serverAskMap_eq, hc1, Option.isNone_some, evalMap, evalW,
      Option.map_some]
    refine ⟨_, _, rfl, rfl, rfl, ?_⟩
    simp [orderOfWire, wnum, wbytes, wbool, wget, hc2, sameSigned, hb, wrapI64_u64OfInt hs.wf.amt,
      wrapI64_u64OfInt hs.wf.fee, minChan_roundtrip hs.minChan]
    intro v t ht
    cases t <;> first | rfl | cases ht
  · obtain ⟨m, ht1, ht2⟩ := Option.bind_eq_some_iff.1 (tier_roundtrip _ (hs.tier hb))
    simp only [if_true, serverBidMap_eq, hc1, Option.isNone_some, Bool.false_eq_true, if_false, evalMap, evalW,
      ht1, Option.map_some]
    refine ⟨_, _, rfl, rfl, rfl, ?_⟩
    simp [orderOfWire, wnum, wbytes, wbool, wget, hc2, ht2, sameSigned, hb, wrapI64_u64OfInt hs.wf.amt,
      wrapI64_u64OfInt hs.wf.fee, wrapI64_u64OfInt hs.wf.scb, minChan_roundtrip hs.minChan]
    intro v t ht
    cases t <;> first | rfl | cases ht

theorem copyInto_length (n : Nat) (src : Bytes) : (copyInto n src).length = n := by
  simp [copyInto, List.length_take]; omega

theorem wrapI64_range (a : Int) : I64 (wrapI64 a) := by unfold I64 wrapI64; omega

/-- what the Go types of `poolrpc.Order` and of the other arguments guarantee -/
structure RpcWF (version lease : Nat) (d : RpcOrder) : Prop where
  version : version < 4294967296
  lease : lease < 4294967296
  rate : d.rateFixed < 4294967296
  amt : d.amt < 18446744073709551616
  fee : d.maxBatchFeeRate < 18446744073709551616
  minUnits : d.minUnitsMatch < 4294967296
  auction : d.auctionType < 4294967296

end Pool.C12
