import PoolProofs.C08Lemmas
/-! I2 (watcher adequacy): `resumeRest` (the `resumeAccount` clauses used on restart, watch-matched and for a spend that
re-creates the output) establishes it from *any* watcher registry, `handleConf` where it moves the account; every op
preserves it under the environment conditions `EnvOK`, which are `False` for `consumeSpend` and `recover`: these two
ops are not covered. -/
namespace Pool.C08

def spendLive (w : Watch) (op : OutPoint) : Prop := ∃ r ∈ w.spendRegs, r.op = op
def confLive (w : Watch) (txid : Nat) : Prop := ∃ r ∈ w.confRegs, r.txid = txid

/-- **I2** for one record: the account is watched for the event its state waits for; a state that waits for a
confirmation: of its outpoint's transaction, or of / for the spend of a predecessor input, whose handler arms the
confirmation watcher -/
def Adq (a : Acct) (w : Watch) : Prop :=
  match a.state with
  | .pendingOpen | .pendingUpdate | .pendingBatch | .expiredPendingUpdate =>
    confLive w a.outpoint.txid ∨
      ∃ t, a.latestTx = some t ∧ ∃ op ∈ t.spends, spendLive w op ∨ confLive w op.txid
  | .open_ => spendLive w a.outpoint ∧ w.expiry = some a.expiry
  | .expired | .pendingClosed => spendLive w a.outpoint
  | _ => True

def Inv2 (s : AState) : Prop := ∀ a, s.acct = some a → Adq a s.w

theorem spendLive_regSpend (s : AState) (op : OutPoint) (sc : Script) : spendLive (regSpend s op sc).w op :=
  ⟨⟨s.nextReg, op, sc⟩, by simp [regSpend], rfl⟩

theorem confLive_regConf (s : AState) (x : Nat) (sc : Script) : confLive (regConf s x sc).w x :=
  ⟨⟨s.nextReg, x, sc⟩, by simp [regConf], rfl⟩

theorem adq_iff (a : Acct) (w : Watch) : Adq a w ↔
    (waitsForConf a.state = true → confLive w a.outpoint.txid ∨
      ∃ t, a.latestTx = some t ∧ ∃ op ∈ t.spends, spendLive w op ∨ confLive w op.txid) ∧
    (a.state = .open_ ∨ a.state = .expired ∨ a.state = .pendingClosed → spendLive w a.outpoint) ∧
    (a.state = .open_ → w.expiry = some a.expiry) := by
  cases hst : a.state <;> simp [Adq, hst, waitsForConf]

theorem Adq.mono {a : Acct} {w w' : Watch} (h : Adq a w)
    (hc : waitsForConf a.state = true → ∀ x, confLive w x → confLive w' x)
    (hs : ∀ op, spendLive w op → spendLive w' op) (he : a.state = .open_ → w'.expiry = w.expiry) : Adq a w' := by
  rw [adq_iff] at h ⊢
  refine ⟨fun hw => ?_, fun hst => hs _ (h.2.1 hst), fun hst => (he hst).trans (h.2.2 hst)⟩
  exact (h.1 hw).imp (hc hw _) fun ⟨t, ht, op, hop, hl⟩ => ⟨t, ht, op, hop, hl.imp (hs op) (hc hw _)⟩

theorem adq_stored {a : Acct} {w : Watch} : Adq a.stored w ↔ Adq a w := by
  unfold Acct.stored
  split
  · rename_i h
    rcases h with h | h <;> simp [Adq, h]
  · rfl

theorem inv2_none {s : AState} (hn : s.acct = none) : Inv2 s := fun _ hb => by rw [hn] at hb; cases hb

theorem inv2_of_adq {s : AState} {a : Acct} (ha : s.acct = some a) (h : Adq a s.w) : Inv2 s :=
  fun _ hb => Option.some.inj (ha.symm.trans hb) ▸ h

theorem inv2_write {s : AState} {a : Acct} (h : Adq a s.w) : Inv2 (write s a) :=
  inv2_of_adq rfl (adq_stored.mpr h)

theorem inv2_maybeBroadcast {s : AState} (h : Inv2 s) (t : Tx) : Inv2 (maybeBroadcast s t) := by
  unfold maybeBroadcast
  split
  · exact h
  · exact h

theorem inv2_congr {s s' : AState} (h : Inv2 s) (ha : s'.acct = s.acct) (h1 : s'.w.confRegs = s.w.confRegs)
    (h2 : s'.w.spendRegs = s.w.spendRegs) (h3 : s'.w.expiry = s.w.expiry) : Inv2 s' :=
  fun b hb => (h b (ha ▸ hb)).mono (fun _ x => by simp [confLive, h1]) (fun op => by simp [spendLive, h2])
    fun _ => h3

theorem adq_idle {a : Acct} (w : Watch) (hst : a.state = .initiated ∨ a.state = .closed ∨ a.state = .canceled) :
    Adq a w := by
  rcases hst with h | h | h <;> simp [Adq, h]

/-- `x`: the tracked expiry may have been dropped just before (`NewBlock`, immediate hand-off) – no state
`HandleAccountExpiry` moves to, and none it leaves alone, needs it -/
theorem handleExpiry_inv2 {s : AState} (h : Inv2 s) (x : Option Nat) :
    Inv2 (handleExpiry { s with w := { s.w with expiry := x } }) := by
  refine handleExpiry_cases _ (fun hn b hb => ?_) fun a t ha ht => inv2_write ?_
  · refine (h b hb).mono (fun _ _ => id) (fun _ => id) fun ho => ?_
    exact absurd (by rw [ho]; decide) (hn b .expired hb)
  · have := (adq_iff a s.w).mp (h a ha)
    refine (adq_iff _ _).mpr ?_
    rcases expiryNext_to ht with ⟨hs, rfl⟩ | ⟨hs, rfl⟩
    · exact ⟨nofun, fun _ => this.2.1 (Or.inl hs), nofun⟩
    · exact ⟨fun _ => this.1 (by rcases hs with hs | hs <;> rw [hs] <;> rfl), fun h => by simp at h, nofun⟩

theorem watchExpiration_inv2_of_tracked {s : AState} (e : Nat)
    (h : Inv2 { s with w := { s.w with expiry := some e } }) : Inv2 (watchExpiration s e) := by
  unfold watchExpiration
  split
  · exact handleExpiry_inv2 h none
  · exact h

theorem watchExpiration_inv2 {s : AState} (h : Inv2 s) (e : Nat)
    (hno : ∀ a, s.acct = some a → a.state ≠ .open_) : Inv2 (watchExpiration s e) :=
  watchExpiration_inv2_of_tracked e fun b hb =>
    (h b hb).mono (fun _ _ => id) (fun _ => id) fun ho => absurd ho (hno b hb)

theorem handleStateOpen_inv2 (s : AState) (a : Acct) (ha : s.acct = some a)
    (hst : a.state = .open_ ∨ a.state = .expired) : Inv2 (handleStateOpen s a) := by
  rw [handleStateOpen_eq]
  refine watchExpiration_inv2_of_tracked _ (inv2_of_adq ha ((adq_iff _ _).mpr
    ⟨fun hw => ?_, fun _ => spendLive_regSpend s _ _, fun _ => rfl⟩))
  rcases hst with h | h <;> simp [h, waitsForConf] at hw

/-- `w'`: whatever became of the conf registrations (the delivering one is gone) -/
theorem handleConf_inv2 (s : AState) (w' : Watch) (ht : Nat) (h : Inv2 s)
    (hsp : w'.spendRegs = s.w.spendRegs) (hex : w'.expiry = s.w.expiry) :
    Inv2 (handleConf { s with w := w' } ht) := by
  refine handleConf_cases _ ht (fun hn b hb => ?_) fun a t ha hn => ?_
  · refine (h b hb).mono (fun hw => ?_) (fun op => by simp [spendLive, hsp]) fun _ => hex
    rw [← confNext_isSome, hn b hb] at hw
    cases hw
  · have htt := confNext_target hn
    refine handleStateOpen_inv2 _ _ (write_acct_of_live _ ?_ ?_) htt <;> rcases htt with h' | h' <;> simp [h']

theorem arm_inv2 (s : AState) (a : Acct) (acts : List String) (ha : s.acct = some a)
    (hacts : resumeActs a.state = some acts) : Inv2 (expiryRearm (watchers s a acts) a acts) := by
  obtain ⟨acts', hacts', hc, hh, hs, he, -, -⟩ := resumeActs_spec a.state
  obtain rfl : acts' = acts := Option.some.inj (hacts'.symm.trans hacts)
  simp only [expiryRearm, watchers, hc, hh, hs, he]
  have hconf := confLive_regConf s a.outpoint.txid (a.script s.key)
  cases hst : a.state <;> simp [waitsForConf]
  case initiated | closed | canceled => exact inv2_of_adq ha (adq_idle _ (by simp [hst]))
  case open_ => exact handleStateOpen_inv2 s a ha (Or.inl hst)
  case expired | pendingClosed =>
    exact inv2_of_adq ha ((adq_iff _ _).mpr
      ⟨by simp [hst, waitsForConf], fun _ => spendLive_regSpend _ _ _, by simp [hst]⟩)
  case pendingOpen | expiredPendingUpdate =>
    exact inv2_of_adq ha ((adq_iff _ _).mpr ⟨fun _ => Or.inl hconf, by simp [hst], by simp [hst]⟩)
  case pendingUpdate | pendingBatch =>
    refine watchExpiration_inv2 (s := regConf s a.outpoint.txid (a.script s.key))
      (inv2_of_adq ha ((adq_iff _ _).mpr ⟨fun _ => Or.inl hconf, by simp [hst], by simp [hst]⟩)) _ fun b hb => ?_
    obtain rfl : a = b := Option.some.inj (ha.symm.trans hb)
    simp [hst]

/-- `hok`: the rebroadcast of the clause finds its transaction – because the clause succeeds, or because the record
carries it (from I1) -/
theorem resumeRest_inv2 (s : AState) (a : Acct) (onRestart : Bool) (ha : s.acct = some a)
    (hok : (resumeRest s a onRestart).2 = .ok ∨ CarriesTx a) : Inv2 (resumeRest s a onRestart).1 := by
  revert hok
  refine resumeRest_cases (P := fun x => x.2 = .ok ∨ _ → Inv2 x.1) s a onRestart
    (fun hf res hres hok => hok.elim (fun h => absurd h hres) fun h => absurd h hf)
    fun acts s1 hacts hs1 _ _ => arm_inv2 s1 a acts ?_ hacts
  rcases hs1 with rfl | ⟨t, _, rfl⟩
  · exact ha
  · exact (maybeBroadcast_acct s t).trans ha

/-- `hok` as for `resumeRest_inv2`, and `Inv2 s` for a `StateInitiated` record: where its funding fails, the result is
the caller's `s` -/
theorem resume_inv2 (s : AState) (a : Acct) (onRestart onRecovery fee : Bool) (f : Option (Nat × Nat))
    (ha : a.state ≠ .initiated → s.acct = some a)
    (hok : (resume s a onRestart onRecovery fee f).2 = .ok ∨ (a.state = .initiated → Inv2 s) ∧ CarriesTx a) :
    Inv2 (resume s a onRestart onRecovery fee f).1 := by
  revert hok
  exact resume_cases (P := fun x => x.2 = .ok ∨ _ → Inv2 x.1) s a onRestart onRecovery fee f
    (fun hne hok => resumeRest_inv2 s a onRestart (ha hne) (hok.imp_right And.right))
    (fun hi _ hok => hok.elim nofun fun h => h.1 hi)
    (fun _ _ _ _ _ => inv2_write (adq_idle _ (Or.inr (Or.inr rfl))))
    fun _ _ t _ _ _ _ =>
      resumeRest_inv2 _ _ onRestart (write_acct_of_live _ nofun nofun) (Or.inr ⟨fun _ => ⟨t, rfl, rfl⟩, nofun⟩)

/-- after `spendAccount` the new record is still watched through the spend watcher of the old outpoint -/
theorem spendAccount_inv2 {s : AState} (h : Inv2 s) {a a' : Acct} (t : Tx) (ha : s.acct = some a)
    (hst : a.state = .open_ ∨ a.state = .expired) (hnew : spendLive s.w a.outpoint → Adq a' s.w) :
    Inv2 (maybeBroadcast (write s a') t) :=
  inv2_maybeBroadcast (inv2_write (hnew (((adq_iff a s.w).mp (h a ha)).2.1 (hst.imp_right Or.inl)))) t

theorem modify_inv2 {s : AState} (h : Inv2 s) (k : Kind) (m : ModArgs) : Inv2 (modify s k m).1 := by
  refine modify_cases (P := fun x => Inv2 x.1) s k m h fun a a' t ha hst hs ht _ _ hsp => ?_
  have hw := spendAccount_inv2 h t ha hst fun hl => (adq_iff a' s.w).mpr
    ⟨fun _ => Or.inr ⟨t, ht, a.outpoint, hsp, Or.inl hl⟩, by simp [hs], by simp [hs]⟩
  refine ⟨hw, watchExpiration_inv2 hw _ fun b hb => ?_⟩
  obtain rfl : a'.stored = b := Option.some.inj ((maybeBroadcast_acct _ t).symm.trans hb)
  simp [stored_state, hs]

theorem close_inv2 {s : AState} (h : Inv2 s) (ht txid : Nat) (ok sg : Bool) : Inv2 (close s ht txid ok sg).1 :=
  close_cases (P := fun x => Inv2 x.1) s ht txid ok sg (fun _ => h) fun a t ha hst _ =>
    spendAccount_inv2 h t ha hst fun hl => (adq_iff _ s.w).mpr ⟨by simp [waitsForConf], fun _ => hl, by simp⟩

theorem resume_stored_inv2 (s : AState) (j : Inv1 s) (a : Acct) (ha : s.acct = some a)
    (onRestart onRecovery fee : Bool) (f : Option (Nat × Nat)) : Inv2 (resume s a onRestart onRecovery fee f).1 :=
  resume_inv2 s a onRestart onRecovery fee f (fun _ => ha)
    (Or.inr ⟨fun hi => inv2_of_adq ha (adq_idle _ (Or.inl hi)), (j.acctOK a ha).toRecOK0.carriesTx⟩)

theorem handleSpend_inv2 (s : AState) (t : Tx) (ht : Nat) (j : Inv1 s)
    (hs : ¬(t.wit = 1 ∨ t.wit = 2) → Inv2 s) : Inv2 (handleSpend s t ht).1 :=
  handleSpend_cases (P := fun x => Inv2 x.1) s t ht (fun hr => hr.elim inv2_none hs)
    (fun _ _ => inv2_write (adq_idle _ (.inr (.inl rfl)))) (fun _ _ => inv2_write (adq_idle _ (.inr (.inl rfl))))
    fun a ha => resume_stored_inv2 _ (Inv1.handlerInv.onComplete j) a ha _ _ _ _

/-- A3 (a delivered spend has an admissible witness shape); a bare batch completion must find the staged copy watched
already (where it does not: the open finding `C08/complete-without-rewatch`).  Not covered (`False`): `consumeSpend`,
the driver-internal first half of a concurrent delivery, and C20's `recover`. -/
def EnvOK (s : AState) : Op → Prop
  | .spend pos k _ => ∀ r t, s.w.spendRegs[pos]? = some r → spendTx s k r.op = some t → t.wit = 1 ∨ t.wit = 2
  | .completeOnly => ∀ b, s.staged = some b → Adq b.stored s.w
  | .consumeSpend _ => False
  | .recover _ _ => False
  | _ => True

protected theorem Inv2.step {s : AState} (h : Inv2 s) (j : Inv1 s) (op : Op) (henv : EnvOK s op) : Inv2 (step s op).1 := by
  -- not through `HandlerInv.step`: I2 reads the registry, which is what the wrappers of `step` around the handlers change
  cases op with
  | init v e ver ht f =>
    simp only [step, initAccount]
    exact resume_inv2 _ _ _ _ _ _ (fun hne => absurd rfl hne)
      (Or.inr ⟨fun _ => inv2_write (adq_idle _ (Or.inl rfl)), nofun, nofun⟩)
  | modify k m => exact modify_inv2 h k m
  | close ht t ok sg => exact close_inv2 h ht t ok sg
  | bump => exact (bump_fst s).symm ▸ h
  | conf pos ht =>
    simp only [step]
    split
    · exact h
    · rename_i r _
      exact inv2_congr (handleConf_inv2 s { s.w with confRegs := s.w.confRegs.filter (fun x => x.id != r.id) } ht h
        rfl rfl) rfl rfl rfl rfl
  | confDirect ht => exact handleConf_inv2 s s.w ht h rfl rfl
  | spend pos k ht =>
    simp only [step]
    split
    · exact h
    · rename_i r hr
      split
      · exact h
      · rename_i t htx
        exact inv2_congr (handleSpend_inv2 _ t ht (Inv1.storeInv.same (same_watch s _ s.best s.nextReg) j)
          fun hn => absurd (henv r t hr htx) hn) rfl rfl rfl rfl
  | consumeSpend pos => exact absurd henv id
  | spendH t ht => exact inv2_congr (handleSpend_inv2 s t ht j fun _ => h) rfl rfl rfl rfl
  | spendDirect k ht =>
    simp only [step]
    split
    · exact h
    · exact handleSpend_inv2 s _ ht j fun _ => h
  | block ht =>
    simp only [step]
    have h0 : Inv2 { s with best := ht } := h
    split
    · split
      · exact handleExpiry_inv2 h0 none
      · exact h0
    · exact h0
  | expiryDirect => exact handleExpiry_inv2 h s.w.expiry
  | stage g => exact stage_cases (P := fun x => Inv2 x.1) s g h fun _ _ _ _ => h
  | completeOnly => exact completeOnly_cases s (fun _ => h) fun b hb => inv2_of_adq rfl (henv b hb)
  | dropStage => exact h
  | watchMatched =>
    exact watchMatched_cases (P := fun x => Inv2 x.1) s (fun _ => h) fun a _ ha hs =>
      resume_stored_inv2 _ (Inv1.storeInv.same hs j) a (hs.acct.trans ha) _ _ _ _
  | restart fee f =>
    simp only [step]
    split
    · exact inv2_none ‹_›
    · rename_i a ha
      exact resume_stored_inv2 _ (Inv1.storeInv.same (same_watch s {} 0 s.nextReg) j) a ha _ _ _ _
  | recover a known => exact absurd henv id
  | flush => exact inv2_congr h rfl rfl rfl rfl

end Pool.C08
