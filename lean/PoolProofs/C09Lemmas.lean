import PoolModel.C09

namespace Pool.C09

def cnt (out : List (Key × Nat)) (k : Key) : Nat := out.countP (fun p => p.1 == k)

@[simp] theorem cnt_nil (k : Key) : cnt [] k = 0 := rfl

theorem visit_cons (sel : Sel) (b h : Nat) (k : Key) (l : List (Nat × Key)) (e : Key → Option Nat) :
    visit sel b ((h, k) :: l) e =
      if sel h b = true ∧ e k = some h then
        ((visit sel b l (erase e k)).1, (k, h) :: (visit sel b l (erase e k)).2)
      else visit sel b l e := by
  rw [visit]
  by_cases hs : sel h b = true <;> by_cases he : e k = some h <;> simp [hs, he]

/-- the height a sweep over the entries `l` at new best height `b` reports for account `k`, if it fires `k` -/
def fired (sel : Sel) (b : Nat) (l : List (Nat × Key)) (e : Key → Option Nat) (k : Key) : Option Nat :=
  (e k).filter fun h => decide ((h, k) ∈ l) && sel h b

theorem fired_eq_some {sel : Sel} {b : Nat} {l : List (Nat × Key)} {e : Key → Option Nat} {k : Key} {r : Nat} :
    fired sel b l e k = some r ↔ e k = some r ∧ (r, k) ∈ l ∧ sel r b = true := by
  simp [fired, Option.filter_eq_some_iff]

/-- one account's view of a `NewBlock`; `l` enters only through membership, so neither the order of the entries nor
duplicates among them matter -/
theorem visit_key (sel : Sel) (b : Nat) (l : List (Nat × Key)) (e : Key → Option Nat) (k : Key) :
    (visit sel b l e).1 k = (if (fired sel b l e k).isSome then none else e k) ∧
    (visit sel b l e).2.filter (·.1 == k) = (fired sel b l e k).toList.map (k, ·) := by
  induction l generalizing e with
  | nil => cases h : e k <;> simp [visit, fired, h]
  | cons p l ih =>
    obtain ⟨h0, k0⟩ := p
    rw [visit_cons]
    by_cases hf : sel h0 b = true ∧ e k0 = some h0
    · -- the head entry fires; afterwards `k0` is untracked, so the tail reports nothing more for it
      rw [if_pos hf]
      have ih' := ih (erase e k0)
      by_cases hk : k0 = k
      · subst hk
        simp only [fired, erase, if_true] at ih'
        simp [ih', hf, fired, Option.filter_some]
      · have hk' : ¬ k = k0 := fun h => hk h.symm
        simp only [fired, erase, hk', if_false] at ih'
        simp [ih', hk, hk', fired]
    · -- the head entry is skipped; it could only matter to `k` if it were `(h, k)` itself and selected
      rw [if_neg hf, (ih e).1, (ih e).2]
      cases hek : e k with
      | none => simp [fired, hek]
      | some h =>
        have : ¬ ((h = h0 ∧ k = k0) ∧ sel h b = true) := by
          rintro ⟨⟨rfl, rfl⟩, hs⟩; exact hf ⟨hs, hek⟩
        simp [fired, hek, Option.filter_some, or_and_right, this]

theorem visit_exp (sel : Sel) (b : Nat) (l : List (Nat × Key)) (e : Key → Option Nat) (k : Key) :
    (visit sel b l e).1 k = if (fired sel b l e k).isSome then none else e k :=
  (visit_key sel b l e k).1

theorem visit_cnt (sel : Sel) (b : Nat) (l : List (Nat × Key)) (e : Key → Option Nat) (k : Key) :
    cnt (visit sel b l e).2 k = if (fired sel b l e k).isSome then 1 else 0 := by
  rw [cnt, List.countP_eq_length_filter, (visit_key sel b l e k).2]
  cases fired sel b l e k <;> rfl

theorem visit_mem (sel : Sel) (b : Nat) (l : List (Nat × Key)) (e : Key → Option Nat)
    (k : Key) (r : Nat) (hm : (k, r) ∈ (visit sel b l e).2) : fired sel b l e k = some r := by
  have hm' : (k, r) ∈ (visit sel b l e).2.filter (·.1 == k) := List.mem_filter.mpr ⟨hm, beq_self_eq_true k⟩
  rw [(visit_key sel b l e k).2] at hm'
  simpa using hm'

/-- representation invariant of the watcher -/
def Inv (s : St) : Prop :=
  ∀ k h, s.exp k = some h → (h, k) ∈ s.perH ∧ s.best < h

/-- Under `selExact` an account registered below a later, skipped height stays tracked although due: `inv_step` fails
for it. -/
theorem Inv.fired_eq {s : St} (hI : Inv s) (b : Nat) (k : Key) :
    fired selUpTo b s.perH s.exp k = (s.exp k).filter (· ≤ b) := by
  unfold fired
  cases hk : s.exp k with
  | none => rfl
  | some h => simp [Option.filter_some, (hI k h hk).1, selUpTo]

theorem inv_init : Inv init := by
  intro k h hk; simp [init] at hk

theorem inv_step (s : St) (op : Op) (hI : Inv s) : Inv (step selUpTo s op).1 := by
  intro k h hk
  cases op with
  | add k0 h0 =>
    by_cases hle : h0 ≤ s.best
    · simp only [step, if_pos hle, erase] at hk ⊢
      split at hk
      · cases hk
      · exact hI k h hk
    · simp only [step, if_neg hle, insert] at hk ⊢
      split at hk
      next hkk =>
        cases hk
        exact ⟨by simp [hkk], Nat.lt_of_not_le hle⟩
      next =>
        obtain ⟨hm, hlt⟩ := hI k h hk
        exact ⟨List.mem_append_left _ hm, hlt⟩
  | block b =>
    simp only [step] at hk ⊢
    rw [visit_exp, hI.fired_eq] at hk
    split at hk
    · cases hk
    next hc =>
      -- `k` survives the block, so it is not due; its bucket holds it (`Inv`) and was not selected
      have hns : ¬ h ≤ b := by simpa [hk, Option.filter_some] using hc
      exact ⟨List.mem_filter.mpr ⟨(hI k h hk).1, by simpa [selUpTo] using hns⟩, Nat.lt_of_not_le hns⟩

end Pool.C09
