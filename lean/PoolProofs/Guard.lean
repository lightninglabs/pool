/-! Guards.  The models render Go's `if c { return err }` as `if c then <failure> else <rest>`, so every function is a
cascade of such tests.  `guard_cases` takes one guard off where a property of the result is to be shown (on a `≠` goal
pass `(P := (· ≠ _))`: unification picks the wrong motive); the `ite_…` rules where the result is known not to be the
failure: `simp only [f, ite_error_eq_ok] at h` turns `h : f … = .ok a` into the conjunction of the checks passed. -/
namespace Pool

theorem guard_cases {α} {c : Prop} [Decidable c] {e x : α} {P : α → Prop} (he : P e) (hx : ¬ c → P x) :
    P (if c then e else x) := by
  split
  · exact he
  · exact hx ‹_›

theorem ite_eq_iff_of_ne {α} {c : Prop} [Decidable c] {a x b : α} (hab : a ≠ b) :
    (if c then a else x) = b ↔ ¬ c ∧ x = b := by
  split <;> simp [*]

theorem ite_else_eq_iff_of_ne {α} {c : Prop} [Decidable c] {a x b : α} (hab : a ≠ b) :
    (if c then x else a) = b ↔ c ∧ x = b := by
  split <;> simp [*]

theorem of_ite_eq {α} {c : Prop} [Decidable c] {a x b : α} (hab : a ≠ b) (h : (if c then a else x) = b) :
    ¬ c ∧ x = b :=
  (ite_eq_iff_of_ne hab).mp h

theorem ite_error_eq_ok {ε α} {c : Prop} [Decidable c] {e : ε} {x : Except ε α} {a : α} :
    (if c then .error e else x) = .ok a ↔ ¬ c ∧ x = .ok a :=
  ite_eq_iff_of_ne nofun

theorem ite_else_error_eq_ok {ε α} {c : Prop} [Decidable c] {e : ε} {x : Except ε α} {a : α} :
    (if c then x else .error e) = .ok a ↔ c ∧ x = .ok a :=
  ite_else_eq_iff_of_ne nofun

end Pool
