import PoolProofs.Float64Mono
/-! # Headline facts about the shared binary64 model `PoolModel/Float64.lean` -/
namespace Pool.Float64

/-- one correctly rounded operation has relative error at most 2^-53 (any positive rational; unbounded exponent) -/
theorem Float64_rnd_relerr (n d : Nat) (hd : 0 < d) :
    |(rnd n d).val - (n : ℚ) / d| ≤ ((n : ℚ) / d) / 2 ^ 53 := rnd_relerr n d hd

/-- `LumpSumPremium` is the exact premium `amt·rate·dur/10^9` up to a relative 2^-50 and the final truncation -/
theorem Float64_premium_near (amt rate dur : Nat) :
    exactPremium amt rate dur * (1 - 1 / 2 ^ 50) - 1 < (premium amt rate dur : ℚ) ∧
    (premium amt rate dur : ℚ) ≤ exactPremium amt rate dur * (1 + 1 / 2 ^ 50) := premium_near amt rate dur

theorem Float64_rnd_mono (n1 d1 n2 d2 : Nat) (hd1 : 0 < d1) (hd2 : 0 < d2) (h : n1 * d2 ≤ n2 * d1) :
    (rnd n1 d1).val ≤ (rnd n2 d2).val := rnd_mono n1 d1 n2 d2 hd1 hd2 h

/-- `LumpSumPremium` is monotone in amount, rate and duration -/
theorem Float64_premium_mono {a a' r r' d d' : Nat} (ha : a ≤ a') (hr : r ≤ r') (hd : d ≤ d') :
    premium a r d ≤ premium a' r' d' := premium_mono ha hr hd

theorem Float64_premiumInt_of_nonneg (a rate dur : Nat) (h : premium a rate dur < 2 ^ 63) :
    premiumInt (a : Int) rate dur = (premium a rate dur : Int) := by
  unfold premiumInt
  have h1 : ¬ ((a : Int) < 0) := by omega
  have h2 : (premium a rate dur : Int) < 2 ^ 63 := by exact_mod_cast h
  simp only [Int.natAbs_natCast, h1, if_false]
  rw [if_neg]; omega

theorem Float64_premiumInt_neg (a rate dur : Nat) (h : premium a rate dur ≤ 2 ^ 63) :
    premiumInt (-(a : Int)) rate dur = -(premium a rate dur : Int) := by
  unfold premiumInt
  have h2 : (premium a rate dur : Int) ≤ 2 ^ 63 := by exact_mod_cast h
  simp only [Int.natAbs_neg, Int.natAbs_natCast]
  by_cases ha : -(a : Int) < 0
  · simp only [ha, if_true]; rw [if_neg]; omega
  · have : a = 0 := by omega
    subst this
    have h0 : premium 0 rate dur = 0 := by simpa [exactPremium] using (premium_near 0 rate dur).2
    simp [h0]

/-- non-vacuity: a negative amount, and the amd64 out-of-range value -/
example : premiumInt (-100000) 2000 144 = -28 ∧ premium 100000 2000 144 ≤ 2 ^ 63 ∧
    premiumInt 9223372036854775807 4294967295 4294967295 = -(2 ^ 63) := by decide

/-- `m = 2^53` occurs: `rnd` does not renormalise after a rounding carry (`rnd (2^54 - 1) 1 = ⟨2^53, 1⟩`), so equal
values need not be equal as `F` -/
theorem Float64_rnd_significand (n d : Nat) (hn : 0 < n) (hd : 0 < d) :
    2 ^ 52 ≤ (rnd n d).m ∧ (rnd n d).m ≤ 2 ^ 53 := rnd_sig_bounds n d hn hd

/-- non-vacuity: 1/3 ≤ 1/2 round to ordered values; a tie rounds to even (2^53+1 → 2^53) -/
example : (1 : Nat) * 2 ≤ 1 * 3 ∧ (rnd 1 3).m = 6004799503160661 ∧ (rnd 1 2).m = 4503599627370496 ∧
    (rnd (2 ^ 53 + 1) 1) = ⟨2 ^ 52, 1⟩ ∧ (rnd (2 ^ 53 + 3) 1) = ⟨2 ^ 52 + 2, 1⟩ := by decide

/-- sanity: values of the model that the correspondence stream also compares with Go -/
example : premium 100000 2000 144 = 28 ∧ premium 5000000 1000 2016 = 10080 ∧
    premium 123456789 4294967295 4294967295 = 2277375789784474880 := by decide

end Pool.Float64
