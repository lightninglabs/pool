import PoolProofs.C11Lemmas
import PoolProofs.Float64Mono
/-! A match is debited at most what the order's own closure gives for the matched amount (the premium is monotone), the
closure of a bid and of an ask is linear in the amount up to the float slack, and the reserve covers any such order
(`reserve_covers_of_linear`). -/
namespace Pool.C11
open Pool.Float64 Pool.Gen.Reserve

theorem executionFee_bounds (fs : FeeSchedule) (y : Nat) :
    (fs.baseFee : ℚ) + eRate fs * y - 1 < (executionFee fs y : ℚ) ∧ (executionFee fs y : ℚ) ≤ fs.baseFee + eRate fs * y := by
  have h1 := nat_div_gt (y * fs.feeRate) execFeeRateDivisor execFeeRateDivisor_pos
  have h2 := nat_div_le (y * fs.feeRate) execFeeRateDivisor execFeeRateDivisor_pos
  rw [show eRate fs * y = ((y * fs.feeRate : ℕ) : ℚ) / execFeeRateDivisor by unfold eRate; push_cast; ring]
  unfold executionFee
  push_cast at h1 h2 ⊢
  exact ⟨by linarith only [h1], by linarith only [h2]⟩

theorem estimateTraderFee_mono_rate (k ver : Nat) {f g : Nat} (h : f ≤ g) :
    estimateTraderFee k f ver ≤ estimateTraderFee k g ver := by
  unfold estimateTraderFee
  exact Nat.div_le_div_right (Nat.mul_le_mul_right _ h)

theorem estimateTraderFee_mono_wit (k f : Nat) {v w : Nat} (h : traderWitness v ≤ traderWitness w) :
    estimateTraderFee k f v ≤ estimateTraderFee k f w := by
  unfold estimateTraderFee traderWeight
  exact Nat.div_le_div_right (Nat.mul_le_mul_left _ (Nat.add_le_add_left h _))

/-- `hG` of `debit_line_le_reserve_line`: at the fee floor one channel costs at least 2 sat of chain fee -/
theorem fee1_floor_ge (ver : Nat) : 2 ≤ estimateTraderFee 1 feePerKwFloor ver := by
  have := (traderWitness_bounds ver).1
  unfold estimateTraderFee feePerKwFloor
  rw [traderWeight_one]
  omega

/-- each of the `k` truncations on the right loses less than 1 ≤ `f·s/1000` -/
theorem mul_div_le_mul_div_of_slack {f a b k s : Nat} (hfs : 1000 ≤ f * s) (h : a + s * k ≤ k * b) :
    f * a / 1000 ≤ k * (f * b / 1000) := by
  apply Nat.div_le_of_le_mul
  have hr : k * (f * b % 1000) ≤ k * 999 := Nat.mul_le_mul_left k (by omega)
  have h1 : f * a + f * s * k ≤ k * (f * b) := by
    calc f * a + f * s * k = f * (a + s * k) := by ring
      _ ≤ f * (k * b) := Nat.mul_le_mul_left f h
      _ = k * (f * b) := by ring
  have h2 : k * (f * b) = 1000 * (k * (f * b / 1000)) + k * (f * b % 1000) := by
    conv_lhs => rw [← Nat.div_add_mod (f * b) 1000]
    ring
  have h3 : 1000 * k ≤ f * s * k := Nat.mul_le_mul_right k hfs
  omega

/-- 200 per channel is the slack `mul_div_le_mul_div_of_slack` needs at fee rate 5. Tight at `k = 2`: the margin there
    is `traderWitness ver − 60`, 6 with the taproot witness (974 against 980). `hw`: no `uint32` wrap of the weight. -/
theorem traderWeight_slack (k ver : Nat) (hk : 2 ≤ k) (hw : k ≤ 10 ^ 7) :
    traderWeight k ver + 200 * k ≤ k * traderWeight 1 ver := by
  rw [traderWeight_one, Nat.mul_add]
  unfold traderWeight
  rw [Nat.mod_eq_of_lt (by unfold p2wshOutputSize; omega : p2wshOutputSize * k + 1 < 4294967296)]
  have := (traderWitness_bounds ver).1
  have : 2 * traderWitness ver ≤ k * traderWitness ver := Nat.mul_le_mul_right _ hk
  simp only [p2wshOutputSize, inputSize, witnessScaleFactor]
  omega

theorem traderFee_subadditive_aux (k f ver : Nat) (hk : 1 ≤ k) (hf : 5 ≤ f) (hw : k ≤ 10 ^ 7) :
    estimateTraderFee k f ver ≤ k * estimateTraderFee 1 f ver := by
  rcases hk.eq_or_lt with rfl | hk2
  · rw [Nat.one_mul]
  · exact mul_div_le_mul_div_of_slack (s := 200) (by omega) (traderWeight_slack k ver hk2 hw)

theorem matchDebit_of_bid {o : Order} (fs : FeeSchedule) (f : Fill) (h : o.isBid = true) :
    matchDebit fs o f = bidMatchDebit fs o f := by
  simp [matchDebit, h]

theorem matchDebit_of_ask {o : Order} (fs : FeeSchedule) (f : Fill) (h : o.isBid = false) :
    matchDebit fs o f = askMatchDebit fs o f := by
  simp [matchDebit, h]

/-- at the clearing price, which is at most the bid's own rate, a match costs at most what the bid's closure reserves for
    the same amount -/
theorem matchDebit_le_of_bid (fs : FeeSchedule) {o : Order} (hbid : o.isBid = true) (f : Fill)
    (hp : f.price ≤ o.fixedRate) : matchDebit fs o f ≤ -perMatch fs o (toSatoshis f.units) := by
  have := premium_mono (a := bidPremiumAmt o (toSatoshis f.units)) le_rfl hp (le_refl o.leaseDuration)
  rw [matchDebit_of_bid fs f hbid, perMatch_of_bid fs hbid]
  unfold bidMatchDebit bidPerMatch takerDelta
  rw [intNeg_eq]
  omega

/-- an ask earns the premium at the clearing price, which is at least its own rate, in the outbound market also on the
    matched bid's self balance -/
theorem matchDebit_le_of_ask (fs : FeeSchedule) {o : Order} (hask : o.isBid = false) (f : Fill)
    (hp : o.fixedRate ≤ f.price) : matchDebit fs o f ≤ -perMatch fs o (toSatoshis f.units) := by
  have := premium_mono (a := toSatoshis f.units)
    (a' := if o.auctionType = btcOutboundLiquidity then toSatoshis f.units + f.otherSelf else toSatoshis f.units)
    (by split <;> omega) hp (le_refl o.leaseDuration)
  rw [matchDebit_of_ask fs f hask, perMatch_of_ask fs hask]
  unfold askMatchDebit askPerMatch makerDelta
  simp only [intNeg_eq]
  omega

/-- a bid match of `x` sat pays premium and execution fee on `x + σ` and, per match, its self balance and the base fee;
    the two truncations lose between 0 and 2 sat -/
theorem perMatch_linear_of_bid (fs : FeeSchedule) {o : Order} (hbid : o.isBid = true) (x : ℕ) :
    |-((perMatch fs o x : Int) : ℚ) - ((cRate o.fixedRate o.leaseDuration + eRate fs) * ((x : ℚ) + sigma o)
        + ((o.selfChanBalance : ℚ) + fs.baseFee - 1))|
      ≤ cRate o.fixedRate o.leaseDuration * eps * ((x : ℚ) + sigma o) + 1 := by
  obtain ⟨h2, h1⟩ := premium_cRate_bounds (x + sigma o) o.fixedRate o.leaseDuration
  obtain ⟨h4, h3⟩ := executionFee_bounds fs (x + sigma o)
  rw [perMatch_of_bid fs hbid, abs_le]
  unfold bidPerMatch takerDelta
  rw [bidPremiumAmt_eq hbid]
  push_cast at h1 h2 h3 h4 ⊢
  constructor <;> linarith

/-- an ask match of `x` sat gives `x` away, earns the premium and pays the execution fee on it; the truncation of the
    premium gains, that of the fee loses up to 1 sat -/
theorem perMatch_linear_of_ask (fs : FeeSchedule) {o : Order} (hask : o.isBid = false) (x : ℕ) :
    |-((perMatch fs o x : Int) : ℚ) - ((1 - cRate o.fixedRate o.leaseDuration + eRate fs) * x + fs.baseFee)|
      ≤ cRate o.fixedRate o.leaseDuration * eps * x + 1 := by
  obtain ⟨h2, h1⟩ := premium_cRate_bounds x o.fixedRate o.leaseDuration
  obtain ⟨h4, h3⟩ := executionFee_bounds fs x
  rw [perMatch_of_ask fs hask, abs_le]
  unfold askPerMatch makerDelta
  push_cast at h1 h2 h3 h4 ⊢
  constructor <;> linarith

/-- the quantifier of the property: the batch sequences an order can be matched in; `priceOk` is the order's side of
    its rate -/
structure Admissible (o : Order) (ver : Nat) (priceOk : Nat → Prop) (bs : List BatchFills) : Prop where
  fills : ∀ b ∈ bs, ∀ f ∈ b.fills, o.minUnitsMatch ≤ f.units ∧ priceOk f.price
  feeRate : ∀ b ∈ bs, b.feeRate ≤ o.maxBatchFeeRate
  /-- a later account version does not take a larger witness than the one reserved for -/
  version : ∀ b ∈ bs, traderWitness b.ver ≤ traderWitness ver
  /-- a batch that involves the order has a match (and at most 10^7: no `uint32` wrap of the weight) -/
  nonempty : ∀ b ∈ bs, 1 ≤ b.fills.length ∧ b.fills.length ≤ 10 ^ 7
  total : totalUnits bs ≤ o.unitsUnfulfilled

instance (o : Order) (ver : Nat) (priceOk : Nat → Prop) [DecidablePred priceOk] (bs : List BatchFills) :
    Decidable (Admissible o ver priceOk bs) :=
  decidable_of_iff _ ⟨fun h => Admissible.mk h.1 h.2.1 h.2.2.1 h.2.2.2.1 h.2.2.2.2,
    fun h => And.intro h.fills (And.intro h.feeRate (And.intro h.version (And.intro h.nonempty h.total)))⟩

theorem fillsUnits_ge (m : Nat) (fl : List Fill) (h : ∀ f ∈ fl, m ≤ f.units) : fl.length * m ≤ fillsUnits fl := by
  have := List.card_nsmul_le_sum (fl.map (·.units)) m (List.forall_mem_map.2 h)
  rwa [List.length_map] at this

theorem totalUnits_ge (m : Nat) (bs : List BatchFills) (h : ∀ b ∈ bs, ∀ f ∈ b.fills, m ≤ f.units) :
    totalFills bs * m ≤ totalUnits bs := by
  induction bs with
  | nil => simp [totalFills, totalUnits]
  | cons b rest ih =>
    rw [List.forall_mem_cons] at h
    have := ih h.2
    have hb := fillsUnits_ge m b.fills h.1
    simp only [totalFills, totalUnits, List.map_cons, List.sum_cons, Nat.add_mul] at this ⊢
    omega

theorem totalFills_zero (bs : List BatchFills) (hk : ∀ b ∈ bs, 1 ≤ b.fills.length) (h0 : totalFills bs = 0) :
    bs = [] := by
  cases bs with
  | nil => rfl
  | cons b rest =>
    have := hk b List.mem_cons_self
    simp only [totalFills, List.map_cons, List.sum_cons] at h0
    omega

theorem Admissible.totalFills_le {o : Order} {ver : Nat} {priceOk : Nat → Prop} {bs : List BatchFills}
    (hadm : Admissible o ver priceOk bs) (hmin : 0 < o.minUnitsMatch) : totalFills bs ≤ maxMatches o :=
  (Nat.le_div_iff_mul_le hmin).2
    (le_trans (totalUnits_ge o.minUnitsMatch bs fun b hb f hf => (hadm.fills b hb f hf).1) hadm.total)

theorem batch_fee_le (o : Order) (ver : Nat) (b : BatchFills) (hfloor : feePerKwFloor ≤ o.maxBatchFeeRate)
    (hr : b.feeRate ≤ o.maxBatchFeeRate) (hv : traderWitness b.ver ≤ traderWitness ver)
    (hk1 : 1 ≤ b.fills.length) (hk2 : b.fills.length ≤ 10 ^ 7) :
    estimateTraderFee b.fills.length b.feeRate b.ver ≤ b.fills.length * estimateTraderFee 1 o.maxBatchFeeRate ver := by
  have h1 := estimateTraderFee_mono_rate b.fills.length b.ver hr
  have h2 := estimateTraderFee_mono_wit b.fills.length o.maxBatchFeeRate hv
  have h3 := traderFee_subadditive_aux b.fills.length o.maxBatchFeeRate ver hk1 (le_trans (by decide) hfloor) hk2
  omega

theorem fills_debit_le (fs : FeeSchedule) (o : Order) (A C : ℚ) (fl : List Fill)
    (h : ∀ f ∈ fl, ((matchDebit fs o f : Int) : ℚ) ≤ A * (toSatoshis f.units : ℚ) + C) :
    (((fl.map (matchDebit fs o)).sum : Int) : ℚ) ≤ A * (toSatoshis (fillsUnits fl) : ℚ) + (fl.length : ℚ) * C := by
  induction fl with
  | nil => simp [fillsUnits, toSatoshis]
  | cons f rest ih =>
    rw [List.forall_mem_cons] at h
    have ih' := ih h.2
    simp only [List.map_cons, List.sum_cons, List.length_cons, fillsUnits] at ih' ⊢
    rw [toSatoshis_add]
    push_cast at ih' ⊢
    linarith only [h.1, ih']

theorem batches_debit_le (fs : FeeSchedule) (o : Order) (ver : Nat) (hfloor : feePerKwFloor ≤ o.maxBatchFeeRate)
    (A C : ℚ) (bs : List BatchFills)
    (hp : ∀ b ∈ bs, ∀ f ∈ b.fills, ((matchDebit fs o f : Int) : ℚ) ≤ A * (toSatoshis f.units : ℚ) + C)
    (hr : ∀ b ∈ bs, b.feeRate ≤ o.maxBatchFeeRate)
    (hv : ∀ b ∈ bs, traderWitness b.ver ≤ traderWitness ver)
    (hk : ∀ b ∈ bs, 1 ≤ b.fills.length ∧ b.fills.length ≤ 10 ^ 7) :
    ((totalDebit fs o bs : Int) : ℚ) ≤ A * (toSatoshis (totalUnits bs) : ℚ)
        + (totalFills bs : ℚ) * (C + (estimateTraderFee 1 o.maxBatchFeeRate ver : ℚ)) := by
  induction bs with
  | nil => simp [totalDebit, totalUnits, totalFills, toSatoshis]
  | cons b rest ih =>
    rw [List.forall_mem_cons] at hp hr hv hk
    have ih' := ih hp.2 hr.2 hv.2 hk.2
    have hfl := fills_debit_le fs o A C b.fills hp.1
    have hfee : ((estimateTraderFee b.fills.length b.feeRate b.ver : Nat) : ℚ) ≤
        (b.fills.length : ℚ) * (estimateTraderFee 1 o.maxBatchFeeRate ver : ℚ) := by
      exact_mod_cast batch_fee_le o ver b hfloor hr.1 hv.1 hk.1.1 hk.1.2
    simp only [totalDebit, totalUnits, totalFills, List.map_cons, List.sum_cons, batchDebit] at ih' ⊢
    rw [toSatoshis_add]
    push_cast at hfl ih' ⊢
    linarith only [hfl, ih', hfee]

/-- the reserve is `N - 1` matches of the minimum `m` and one of `m + U % m`, chain fee included -/
theorem reserve_lower (fs : FeeSchedule) (o : Order) (ver : Nat) (hN : 1 ≤ maxMatches o)
    (A C : ℚ)
    (hpm : ∀ x : ℕ, A * (x : ℚ) + C ≤ (estimateTraderFee 1 o.maxBatchFeeRate ver : ℚ) - ((perMatch fs o x : Int) : ℚ)) :
    A * (toSatoshis o.unitsUnfulfilled : ℚ) + (maxMatches o : ℚ) * C ≤ ((-closedBalanceDelta fs o ver : Int) : ℚ) := by
  have hNq : (1 : ℚ) ≤ (maxMatches o : ℚ) := by exact_mod_cast hN
  have hU : (toSatoshis o.unitsUnfulfilled : ℚ) = (toSatoshis o.minUnitsMatch : ℚ) * (maxMatches o : ℚ)
      + ((toSatoshis o.unitsUnfulfilled % toSatoshis o.minUnitsMatch : ℕ) : ℚ) := by
    rw [← maxMatches_eq o]; exact_mod_cast (Nat.div_add_mod _ _).symm
  have h1 := hpm (toSatoshis o.minUnitsMatch)
  have h2 := hpm (toSatoshis o.minUnitsMatch + toSatoshis o.unitsUnfulfilled % toSatoshis o.minUnitsMatch)
  have h3 := mul_le_mul_of_nonneg_left h1 (sub_nonneg.2 hNq)
  rw [closedBalanceDelta_eq, hU]
  push_cast at h2 ⊢
  linarith

/-- Debit of `k` matches on `X` sat against the reserve for `N ≥ k` matches on `Y ≥ X` sat; `G` is the fixed part of one
    match with its chain fee, 2 what a match loses to truncation at most. The float slack is `δ(X+Y) ≤ 2δY ≤ 1/2`.
    A reserved match that a coarser fill does not use stays in the reserve with `G − 2`, which must not be negative:
    this is what the fee floor is for. -/
theorem debit_line_le_reserve_line (a δ G X Y k N : ℚ) (ha : 0 ≤ a) (hδ : 0 ≤ δ) (hXY : X ≤ Y) (hkN : k ≤ N)
    (hG : 2 ≤ G) (hδY : δ * Y ≤ 1 / 4) :
    (a + δ) * X + k * G ≤ (a - δ) * Y + N * (G - 2) + 2 * k + 1 / 2 := by
  have hunused : 0 ≤ (N - k) * (G - 2) := mul_nonneg (sub_nonneg.2 hkN) (sub_nonneg.2 hG)
  have h1 : 0 ≤ a * (Y - X) := mul_nonneg ha (sub_nonneg.2 hXY)
  have h2 : δ * X ≤ δ * Y := mul_le_mul_of_nonneg_left hXY hδ
  linarith

/-- the property's inequality for one order, as its text reads without any admission guard -/
def ReserveCovers (fs : FeeSchedule) (o : Order) (ver : Nat) (bs : List BatchFills) : Prop :=
  ∃ R : Int, orderReservedValue fs o ver = .ok R ∧ totalDebit fs o bs ≤ R + 2 * (totalFills bs : Int)

theorem not_reserveCovers {fs : FeeSchedule} {o : Order} {ver : Nat} {bs : List BatchFills} {R D : Int}
    (hR : orderReservedValue fs o ver = .ok R) (hD : totalDebit fs o bs = D)
    (h : R + 2 * (totalFills bs : Int) < D) : ¬ ReserveCovers fs o ver bs := by
  rintro ⟨R', hR', hle⟩
  rw [hR] at hR'
  cases hR'
  omega

theorem ReserveCovers.single {fs : FeeSchedule} {o : Order} {ver : Nat} {b : BatchFills}
    (h : ReserveCovers fs o ver [b]) :
    ∃ R : Int, orderReservedValue fs o ver = .ok R ∧ batchDebit fs o b ≤ R + 2 * (b.fills.length : Int) := by
  obtain ⟨R, hR, hle⟩ := h
  exact ⟨R, hR, by simpa [totalDebit, totalFills] using hle⟩

/-- For any order whose closure is linear in the matched amount up to a rounding slack: `−perMatch x` is within
    `δ(x+σ) + 1` of the line `a(x+σ) + B` (without the chain fee), the slack `δ` on the whole order being at most 1/4 sat,
    and a match is debited at most what the closure gives for it. -/
theorem reserve_covers_of_linear (fs : FeeSchedule) (o : Order) (ver : Nat) (bs : List BatchFills)
    (priceOk : Nat → Prop) (a δ σ B : ℚ)
    (hact : archived o.state = false) (hmin : 0 < o.minUnitsMatch) (hfloor : feePerKwFloor ≤ o.maxBatchFeeRate)
    (hadm : Admissible o ver priceOk bs) (ha : 0 ≤ a) (hδ : 0 ≤ δ) (hσ : 0 ≤ σ) (hB : -1 ≤ B)
    (hslack : δ * ((toSatoshis o.unitsUnfulfilled : ℚ) + (maxMatches o : ℚ) * σ) ≤ 1 / 4)
    (hpm : ∀ x : ℕ, |-((perMatch fs o x : Int) : ℚ) - (a * ((x : ℚ) + σ) + B)| ≤ δ * ((x : ℚ) + σ) + 1)
    (hdeb : ∀ f : Fill, priceOk f.price → matchDebit fs o f ≤ -perMatch fs o (toSatoshis f.units)) :
    ReserveCovers fs o ver bs := by
  refine ⟨_, orderReservedValue_closed fs o ver hact hmin, ?_⟩
  have hkN := hadm.totalFills_le hmin
  rcases Nat.eq_zero_or_pos (maxMatches o) with hN0 | hN1
  · -- not even one minimum match is left: there is no batch
    have : bs = [] := totalFills_zero bs (fun b hb => (hadm.nonempty b hb).1) (by omega)
    subst this
    simp only [totalDebit, totalFills, List.map_nil, List.sum_nil]
    split <;> omega
  set fee1 := estimateTraderFee 1 o.maxBatchFeeRate ver
  -- both as lines in the matched amount: slope `a ± δ`, per match `(a ± δ)σ + B ± 1`; the reserve's with the chain fee of
  -- one channel
  have hub := batches_debit_le fs o ver hfloor (a + δ) ((a + δ) * σ + B + 1) bs
    (fun b hb f hf => by
      have h1 := (abs_le.1 (hpm (toSatoshis f.units))).2
      have h2 : ((matchDebit fs o f : Int) : ℚ) ≤ ((-perMatch fs o (toSatoshis f.units) : Int) : ℚ) :=
        Int.cast_le.2 (hdeb f (hadm.fills b hb f hf).2)
      push_cast at h2
      linarith only [h1, h2])
    hadm.feeRate hadm.version hadm.nonempty
  have hlb := reserve_lower fs o ver hN1 (a - δ) ((a - δ) * σ + B - 1 + fee1)
    (fun x => by have := (abs_le.1 (hpm x)).1; linarith only [this])
  have hfee : (2 : ℚ) ≤ (fee1 : ℚ) := by
    exact_mod_cast le_trans (fee1_floor_ge ver) (estimateTraderFee_mono_rate 1 ver hfloor)
  have hkNq : (totalFills bs : ℚ) ≤ (maxMatches o : ℚ) := by exact_mod_cast hkN
  have hFU : (toSatoshis (totalUnits bs) : ℚ) ≤ (toSatoshis o.unitsUnfulfilled : ℚ) := by
    exact_mod_cast toSatoshis_mono hadm.total
  have hline := debit_line_le_reserve_line a δ (B + 1 + fee1)
    ((toSatoshis (totalUnits bs) : ℚ) + (totalFills bs : ℚ) * σ)
    ((toSatoshis o.unitsUnfulfilled : ℚ) + (maxMatches o : ℚ) * σ) (totalFills bs) (maxMatches o) ha hδ
    (by have := mul_le_mul_of_nonneg_right hkNq hσ; linarith only [this, hFU]) hkNq (by linarith only [hB, hfee])
    hslack
  have : totalDebit fs o bs < -closedBalanceDelta fs o ver + 2 * (totalFills bs : Int) + 1 := by
    rw [← Int.cast_lt (R := ℚ)]
    push_cast at hlb ⊢
    linarith only [hub, hlb, hline]
  split <;> omega

/-- the premium guard bounds the exact premium of the whole order by 2^48, and `eps = 2^-50` -/
theorem premiumGuard_slack (o : Order) (h : premiumGuard o = true) :
    cRate o.fixedRate o.leaseDuration * eps *
      ((toSatoshis o.unitsUnfulfilled : ℚ) + (maxMatches o : ℚ) * (sigma o : ℚ)) ≤ 1 / 4 := by
  have hg := cRate_mul_le (M := 2 ^ 48) (of_decide_eq_true h)
  have hsig : (sigma o : ℚ) ≤ (o.selfChanBalance : ℚ) := by exact_mod_cast sigma_le o
  have := mul_le_mul_of_nonneg_left (mul_le_mul_of_nonneg_left hsig (Nat.cast_nonneg (α := ℚ) (maxMatches o)))
    (cRate_nonneg o.fixedRate o.leaseDuration)
  push_cast at hg
  unfold eps
  linarith

/-- the property's guard for asks: at the ask's own rate the premium never exceeds the leased amount -/
def askGuard (o : Order) : Prop := o.fixedRate * o.leaseDuration ≤ feeRateTotalParts

instance (o : Order) : Decidable (askGuard o) := by unfold askGuard; infer_instance

theorem askGuard_q (o : Order) (h : askGuard o) : cRate o.fixedRate o.leaseDuration ≤ 1 := by
  simpa using cRate_mul_le (y := 1) (M := 1) (by simpa [askGuard] using h)

end Pool.C11
