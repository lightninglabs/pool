import PoolModel.C11
import PoolProofs.Float64Lemmas
/-! The float premium as a rational bound, the three cases of `reservedValue` (archived, zero minimum match, closed form),
and the order store as `validateOrder` walks it. -/
namespace Pool.C11
open Pool.Float64 Pool.Gen.Reserve

/-- relative slack of the float premium (`premium_near`) -/
def eps : ℚ := 1 / 2 ^ 50
/-- premium per satoshi -/
def cRate (rate dur : Nat) : ℚ := (rate : ℚ) * dur / (feeRateTotalParts : ℚ)
/-- execution fee per satoshi -/
def eRate (fs : FeeSchedule) : ℚ := (fs.feeRate : ℚ) / (execFeeRateDivisor : ℚ)

theorem eps_pos : 0 < eps := by unfold eps; positivity
theorem cRate_nonneg (r d : Nat) : 0 ≤ cRate r d := by unfold cRate; positivity
theorem eRate_nonneg (fs : FeeSchedule) : 0 ≤ eRate fs := by unfold eRate; positivity

theorem premium_cRate_bounds (a r d : Nat) :
    (a : ℚ) * cRate r d * (1 - eps) - 1 < (premium a r d : ℚ) ∧ (premium a r d : ℚ) ≤ (a : ℚ) * cRate r d * (1 + eps) := by
  have h := premium_near a r d
  rwa [show exactPremium a r d = (a : ℚ) * cRate r d by unfold exactPremium cRate; ring] at h

/-- the model's guards are in ℕ, cleared of the denominator `FeeRateTotalParts` -/
theorem cRate_mul_le {y M rate dur : Nat} (h : y * rate * dur ≤ M * feeRateTotalParts) :
    (y : ℚ) * cRate rate dur ≤ M := by
  have hK : (0 : ℚ) < (feeRateTotalParts : ℚ) := by exact_mod_cast feeRateTotalParts_pos
  have hq : ((y * rate * dur : ℕ) : ℚ) ≤ ((M * feeRateTotalParts : ℕ) : ℚ) := by exact_mod_cast h
  unfold cRate
  rw [← mul_div_assoc, div_le_iff₀ hK]
  push_cast at hq ⊢
  linarith

/-- the model writes the negation of a debit as `Int.neg` -/
theorem intNeg_eq (a : Int) : Int.neg a = -a := rfl

theorem traderWitness_cases (ver : Nat) :
    traderWitness ver = taprootMultiSigWitnessSize ∨ traderWitness ver = multiSigWitnessSize := by
  unfold traderWitness; split <;> simp

theorem traderWitness_bounds (ver : Nat) : 66 ≤ traderWitness ver ∧ traderWitness ver ≤ 229 := by
  rcases traderWitness_cases ver with h | h <;> rw [h] <;> decide

theorem traderWitness_upgrade : ∀ v ∈ knownAccountVersions, ∀ w ∈ knownAccountVersions, v ≤ w →
    traderWitness w ≤ traderWitness v := by decide

theorem traderWitness_le_legacy (w : Nat) : traderWitness w ≤ traderWitness 0 :=
  (traderWitness_bounds w).2.trans (by decide)

theorem traderWeight_one (ver : Nat) : traderWeight 1 ver = 424 + traderWitness ver := rfl

theorem baseSupplyUnit_pos : 0 < baseSupplyUnit := by decide

theorem execFeeRateDivisor_pos : 0 < execFeeRateDivisor := by decide

theorem reservedValue_archived (o : Order) (pm : Nat → Int) (ver : Nat) (h : archived o.state = true) :
    reservedValue o pm ver = .ok 0 := by
  unfold reservedValue; rw [if_pos h]

theorem reservedValue_min_zero (o : Order) (pm : Nat → Int) (ver : Nat) (h : archived o.state = false)
    (h0 : o.minUnitsMatch = 0) : reservedValue o pm ver = .panic := by
  unfold reservedValue
  rw [if_neg (by simp [h]), if_pos (by simp [h0, toSatoshis])]

theorem orderReservedValue_eq (fs : FeeSchedule) (o : Order) (ver : Nat) :
    orderReservedValue fs o ver = reservedValue o (perMatch fs o) ver := by
  unfold orderReservedValue perMatch; split <;> rfl

theorem orderReservedValue_closed (fs : FeeSchedule) (o : Order) (ver : Nat)
    (hna : archived o.state = false) (hm : 0 < o.minUnitsMatch) :
    orderReservedValue fs o ver =
      .ok (if closedBalanceDelta fs o ver < 0 then -closedBalanceDelta fs o ver else 0) := by
  have hmpos : 0 < toSatoshis o.minUnitsMatch := Nat.mul_pos hm baseSupplyUnit_pos
  rw [orderReservedValue_eq]
  unfold reservedValue closedBalanceDelta
  rw [if_neg (by simp [hna]), if_neg hmpos.ne', apply_ite Outcome.ok]
  generalize perMatch fs o = pm
  generalize toSatoshis o.unitsUnfulfilled = U
  generalize toSatoshis o.minUnitsMatch = m at hmpos
  generalize (estimateTraderFee 1 o.maxBatchFeeRate ver : Int) = fee1
  -- `id` makes the kernel compare the `let` form with its expansion for variables `U m`; with the products
  -- `units * baseSupplyUnit` in their place it tries to evaluate the test of the tuple `match` and is very slow
  revert U m fee1
  refine id ?_
  intro U m hmpos fee1
  dsimp only
  -- Go's test `n0 * m < U` says that the division left a remainder `r`, and then `rem = m + r`
  have hdm : ((U / m : Nat) : Int) * (m : Int) + ((U % m : Nat) : Int) = U := by
    exact_mod_cast Nat.div_add_mod' U m
  by_cases hr : U % m = 0
  · have hc : ¬ ((U / m : Nat) : Int) * (m : Int) < (U : Int) := by
      rw [hr, Nat.cast_zero] at hdm; linarith
    rw [if_neg hc, if_neg (not_not.2 hr)]
    simp only [lt_self_iff_false, if_false]
  · have hc : ((U / m : Nat) : Int) * (m : Int) < (U : Int) := by
      have : (0 : Int) < ((U % m : Nat) : Int) := by exact_mod_cast Nat.pos_of_ne_zero hr
      linarith
    have hrem : (U : Int) - (((U / m : Nat) : Int) - 1) * (m : Int) = ((m + U % m : Nat) : Int) := by
      rw [Nat.cast_add]; linarith
    have hpos : (0 : Int) < ((m + U % m : Nat) : Int) := by exact_mod_cast Nat.add_pos_left hmpos _
    rw [if_pos hc, if_pos hr]
    simp only [hrem, hpos, if_true, Int.toNat_natCast]

theorem toSatoshis_mono {a b : Nat} (h : a ≤ b) : toSatoshis a ≤ toSatoshis b := by
  unfold toSatoshis; exact Nat.mul_le_mul_right _ h

theorem toSatoshis_add (a b : Nat) : toSatoshis (a + b) = toSatoshis a + toSatoshis b := by
  unfold toSatoshis; ring

theorem maxMatches_eq (o : Order) :
    toSatoshis o.unitsUnfulfilled / toSatoshis o.minUnitsMatch = maxMatches o := by
  unfold toSatoshis maxMatches
  exact Nat.mul_div_mul_right _ _ baseSupplyUnit_pos

/-- the two branches of the closed form are one formula: without a remainder the last match is one more of the minimum -/
theorem closedBalanceDelta_eq (fs : FeeSchedule) (o : Order) (ver : Nat) :
    closedBalanceDelta fs o ver =
      ((maxMatches o : Int) - 1) * perMatch fs o (toSatoshis o.minUnitsMatch)
        + perMatch fs o (toSatoshis o.minUnitsMatch + toSatoshis o.unitsUnfulfilled % toSatoshis o.minUnitsMatch)
        - (maxMatches o : Int) * (estimateTraderFee 1 o.maxBatchFeeRate ver : Int) := by
  unfold closedBalanceDelta
  simp only [maxMatches_eq o]
  split
  · ring
  · rename_i hr
    rw [not_not.1 hr, Nat.add_zero]; ring

/-- what the order's closure adds to the matched amount before it takes premium and execution fee -/
def sigma (o : Order) : Nat :=
  if o.isBid = true ∧ o.auctionType = btcOutboundLiquidity then o.selfChanBalance else 0

theorem bidPremiumAmt_eq {o : Order} (h : o.isBid = true) (x : Nat) : bidPremiumAmt o x = x + sigma o := by
  unfold sigma bidPremiumAmt; simp only [h, true_and]; split <;> simp

theorem sigma_of_ask {o : Order} (h : o.isBid = false) : sigma o = 0 := by
  unfold sigma; simp [h]

theorem sigma_le (o : Order) : sigma o ≤ o.selfChanBalance := by
  unfold sigma; split <;> simp

theorem perMatch_of_bid {o : Order} (fs : FeeSchedule) (h : o.isBid = true) : perMatch fs o = bidPerMatch fs o := by
  simp [perMatch, h]

theorem perMatch_of_ask {o : Order} (fs : FeeSchedule) (h : o.isBid = false) : perMatch fs o = askPerMatch fs o := by
  simp [perMatch, h]

def reservedOf (fs : FeeSchedule) (ver : Nat) (o : Order) : Int :=
  match orderReservedValue fs o ver with
  | .ok v => v
  | .panic => 0

theorem reservedOf_of_ok {fs : FeeSchedule} {ver : Nat} {o : Order} {v : Int}
    (h : orderReservedValue fs o ver = .ok v) : reservedOf fs ver o = v := by
  simp [reservedOf, h]

/-- induction over the order store the way `sumReserved` and `runningSums` walk it -/
theorem store_induction (fs : FeeSchedule) (acct : Account) {motive : List Order → Prop} (nil : motive [])
    (other : ∀ x rest, x.acctKey ≠ acct.key → motive rest → motive (x :: rest))
    (panic : ∀ x rest, x.acctKey = acct.key → orderReservedValue fs x acct.version = .panic → motive (x :: rest))
    (ok : ∀ x rest v, x.acctKey = acct.key → orderReservedValue fs x acct.version = .ok v → motive rest →
      motive (x :: rest)) (db : List Order) : motive db := by
  induction db with
  | nil => exact nil
  | cons x rest ih =>
    by_cases hk : x.acctKey = acct.key
    · cases hx : orderReservedValue fs x acct.version with
      | panic => exact panic x rest hk hx
      | ok v => exact ok x rest v hk hx ih
    · exact other x rest hk ih

section
variable {fs : FeeSchedule} {acct : Account} {x : Order} {rest : List Order}

theorem sumReserved_other (h : x.acctKey ≠ acct.key) :
    sumReserved fs acct (x :: rest) = sumReserved fs acct rest := by simp [sumReserved, h]

theorem sumReserved_panic (h : x.acctKey = acct.key) (hx : orderReservedValue fs x acct.version = .panic) :
    sumReserved fs acct (x :: rest) = none := by simp [sumReserved, h, hx]

theorem sumReserved_ok {v : Int} (h : x.acctKey = acct.key) (hx : orderReservedValue fs x acct.version = .ok v) :
    sumReserved fs acct (x :: rest) = (sumReserved fs acct rest).map (v + ·) := by simp [sumReserved, h, hx]

theorem runningSums_other {acc : Int} (h : x.acctKey ≠ acct.key) :
    runningSums fs acct acc (x :: rest) = runningSums fs acct acc rest := by simp [runningSums, h]

theorem runningSums_panic {acc : Int} (h : x.acctKey = acct.key)
    (hx : orderReservedValue fs x acct.version = .panic) : runningSums fs acct acc (x :: rest) = [] := by
  simp [runningSums, h, hx]

theorem runningSums_ok {acc v : Int} (h : x.acctKey = acct.key) (hx : orderReservedValue fs x acct.version = .ok v) :
    runningSums fs acct acc (x :: rest) = (acc + v) :: runningSums fs acct (acc + v) rest := by
  simp [runningSums, h, hx]
end

theorem sumReserved_some (fs : FeeSchedule) (acct : Account) (db : List Order) (rs : Int)
    (h : sumReserved fs acct db = some rs) :
    rs = ((db.filter (fun x => x.acctKey = acct.key)).map (reservedOf fs acct.version)).sum ∧
    ∀ x ∈ db, x.acctKey = acct.key → orderReservedValue fs x acct.version ≠ .panic := by
  induction db using store_induction fs acct generalizing rs with
  | nil => simp [sumReserved] at h; simp [h]
  | other x rest hk ih =>
    rw [sumReserved_other hk] at h
    obtain ⟨e, hp⟩ := ih rs h
    exact ⟨by simp [hk, e], by simpa [hk] using hp⟩
  | panic x rest hk hx => simp [sumReserved_panic hk hx] at h
  | ok x rest v hk hx ih =>
    rw [sumReserved_ok hk hx] at h
    obtain ⟨r, hr, rfl⟩ := Option.map_eq_some_iff.1 h
    obtain ⟨e, hp⟩ := ih r hr
    exact ⟨by simp [hk, reservedOf_of_ok hx, ← e], by simpa [hk, hx] using hp⟩

theorem sumReserved_filter (fs : FeeSchedule) (acct : Account) (db : List Order) :
    sumReserved fs acct (db.filter (fun x => x.acctKey = acct.key)) = sumReserved fs acct db := by
  induction db using store_induction fs acct with
  | nil => rfl
  | other x rest hk ih => rw [List.filter_cons_of_neg (by simpa using hk), ih, sumReserved_other hk]
  | panic x rest hk hx => rw [List.filter_cons_of_pos (by simpa using hk), sumReserved_panic hk hx, sumReserved_panic hk hx]
  | ok x rest v hk hx ih => rw [List.filter_cons_of_pos (by simpa using hk), sumReserved_ok hk hx, sumReserved_ok hk hx, ih]

theorem runningSums_bound (fs : FeeSchedule) (acct : Account) (db : List Order) (B : Int)
    (hB : ∀ x ∈ db, x.acctKey = acct.key → 0 ≤ reservedOf fs acct.version x ∧ reservedOf fs acct.version x ≤ B)
    (acc : Int) :
    ∀ v ∈ runningSums fs acct acc db,
      acc ≤ v ∧ v ≤ acc + ((db.filter (fun x => x.acctKey = acct.key)).length : Int) * B := by
  induction db using store_induction fs acct generalizing acc with
  | nil => simp [runningSums]
  | other x rest hk ih =>
    rw [runningSums_other hk, List.filter_cons_of_neg (by simpa using hk)]
    exact ih (fun y hy => hB y (List.mem_cons_of_mem _ hy)) acc
  | panic x rest hk hx => simp [runningSums_panic hk hx]
  | ok x rest v hk hx ih =>
    have hv := hB x List.mem_cons_self hk
    rw [reservedOf_of_ok hx] at hv
    have ih' := ih (fun y hy => hB y (List.mem_cons_of_mem _ hy)) (acc + v)
    have hn : 0 ≤ ((rest.filter fun x => x.acctKey = acct.key).length : Int) * B :=
      mul_nonneg (Int.natCast_nonneg _) (hv.1.trans hv.2)
    rw [runningSums_ok hk hx, List.filter_cons_of_pos (by simpa using hk), List.length_cons]
    push_cast
    intro w hw
    rcases List.mem_cons.1 hw with rfl | hw
    · constructor <;> linarith
    · have := ih' w hw
      constructor <;> linarith

theorem sum_le_sum_add_mul {α : Type} (c : Int) (l : List α) (f g : α → Int) (k : α → Nat)
    (h : ∀ p ∈ l, f p ≤ g p + c * (k p : Int)) :
    (l.map f).sum ≤ (l.map g).sum + c * ((l.map k).sum : Nat) := by
  induction l with
  | nil => simp
  | cons p rest ih =>
    rw [List.forall_mem_cons] at h
    have h2 := ih h.2
    simp only [List.map_cons, List.sum_cons]
    push_cast at h2 ⊢
    linarith only [h.1, h2]

theorem validateOrder_compares {db : List Order} {o : Order} {acct : Account} {t : Terms}
    (hr : validateOrder db o acct t = .ok ∨ validateOrder db o acct t = .errInsufficient) :
    t.buckets.contains o.leaseDuration = true ∧ feePerKwFloor ≤ o.maxBatchFeeRate ∧
    ∃ r0 rs : Int, orderReservedValue ⟨t.baseFee, t.feeRate⟩ o acct.version = .ok r0 ∧
      sumReserved ⟨t.baseFee, t.feeRate⟩ acct db = some rs ∧
      validateOrder db o acct t = if (acct.value : Int) < r0 + rs then .errInsufficient else .ok := by
  generalize h : validateOrder db o acct t = r at hr ⊢
  unfold validateOrder at h
  split at h
  · subst h; simp at hr
  split at h
  · subst h; simp at hr
  split at h
  · subst h; simp at hr
  rename_i hb hf hsc
  dsimp only at h
  split at h
  · subst h; simp at hr
  · rename_i r0 hr0
    split at h
    · subst h; simp at hr
    · rename_i rs hrs
      exact ⟨by simpa using hb, Nat.le_of_not_lt hf, r0, rs, hr0, hrs, h.symm⟩

end Pool.C11
