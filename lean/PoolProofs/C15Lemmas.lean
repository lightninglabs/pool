import PoolModel.Dec.Ticket
/-! Big-endian and BigSize round trips, the generic TLV stream round trip (`decodeLoop_rows`) and the codec laws of
the primitive record decoders. -/
namespace Pool.Dec

/-! The value of a digit list in radix `B` (big-endian bytes: 256, base58: 58). -/

theorem foldl_radix {α : Type} (B : Nat) (val : α → Nat) (acc : Nat) (l : List α) :
    l.foldl (fun a x => a * B + val x) acc
      = acc * B ^ l.length + l.foldl (fun a x => a * B + val x) 0 := by
  induction l generalizing acc with
  | nil => simp
  | cons x xs ih =>
    simp only [List.foldl_cons, List.length_cons]
    rw [ih (acc * B + val x), ih (0 * B + val x), Nat.pow_succ]
    simp only [Nat.zero_mul, Nat.zero_add, Nat.add_mul, Nat.mul_assoc, Nat.add_assoc]
    rw [Nat.mul_comm B (B ^ xs.length)]

theorem foldl_radix_lt {α : Type} (B : Nat) (val : α → Nat) (l : List α) (h : ∀ x ∈ l, val x < B) :
    l.foldl (fun a x => a * B + val x) 0 < B ^ l.length := by
  induction l with
  | nil => simp
  | cons x xs ih =>
    rw [List.foldl_cons, foldl_radix, List.length_cons, Nat.pow_succ, Nat.zero_mul, Nat.zero_add]
    have := ih fun y hy => h y (List.mem_cons_of_mem _ hy)
    have : (val x + 1) * B ^ xs.length ≤ B * B ^ xs.length :=
      Nat.mul_le_mul_right _ (h x List.mem_cons_self)
    rw [Nat.add_mul, Nat.one_mul] at this
    rw [Nat.mul_comm (B ^ xs.length) B]
    omega

theorem foldl_radix_zeros {α : Type} (B : Nat) (val : α → Nat) (zero : α) (hz : val zero = 0) (z : Nat) (l : List α) :
    (List.replicate z zero ++ l).foldl (fun a x => a * B + val x) 0 = l.foldl (fun a x => a * B + val x) 0 := by
  induction z with
  | zero => rfl
  | succ z ih => simpa [List.replicate_succ, hz] using ih

theorem beNat_append (a b : Bytes) : beNat (a ++ b) = beNat a * 256 ^ b.length + beNat b := by
  unfold beNat
  rw [List.foldl_append, foldl_radix]

theorem beNat_lt (b : Bytes) : beNat b < 256 ^ b.length :=
  foldl_radix_lt 256 UInt8.toNat b fun x _ => x.toNat_lt

theorem beNat_zeros (z : Nat) (b : Bytes) : beNat (List.replicate z 0 ++ b) = beNat b :=
  foldl_radix_zeros 256 UInt8.toNat 0 rfl z b

theorem beNat_single (x : UInt8) : beNat [x] = x.toNat := by simp [beNat]

theorem toBE_length (w n : Nat) : (toBE w n).length = w := by
  induction w generalizing n with
  | zero => simp [toBE]
  | succ w ih => simp [toBE, ih]

theorem beNat_toBE (w n : Nat) (h : n < 256 ^ w) : beNat (toBE w n) = n := by
  induction w generalizing n with
  | zero => simp [toBE, beNat] at *; omega
  | succ w ih =>
    rw [toBE, beNat_append, beNat_single, UInt8.toNat_ofNat',
      ih _ (Nat.div_lt_of_lt_mul (by rw [Nat.pow_succ] at h; omega))]
    simp
    omega

theorem writeVarInt_length_bounds (v : Nat) : 0 < (writeVarInt v).length ∧ (writeVarInt v).length ≤ 9 := by
  fun_cases writeVarInt v <;> simp [toBE_length]

theorem readVarInt_writeVarInt (v : Nat) (hv : v < 2 ^ 64) (rest : Bytes) :
    readVarInt (writeVarInt v ++ rest) = .ok v rest := by
  -- what `readVarInt` asks of the `w` bytes after the discriminant
  have wide (w : Nat) (hw : v < 256 ^ w) : ¬ (toBE w v ++ rest).length < w ∧
      beNat ((toBE w v ++ rest).take w) = v ∧ (toBE w v ++ rest).drop w = rest :=
    ⟨by simp [toBE_length], by rw [List.take_left' (toBE_length w v), beNat_toBE w v hw],
      List.drop_left' (toBE_length w v)⟩
  fun_cases writeVarInt v with
  | case1 h =>
    have : (UInt8.ofNat v).toNat = v := by simp [UInt8.toNat_ofNat']; omega
    simp [readVarInt, this, h]
  | case2 =>
    simp only [List.cons_append, readVarInt, wide 2 (by omega)]
    simp; omega
  | case3 =>
    simp only [List.cons_append, readVarInt, wide 4 (by omega)]
    simp; omega
  | case4 =>
    simp only [List.cons_append, readVarInt, wide 8 (by omega)]
    simp; omega

/-! Generic TLV stream round trip.  The encoding is described relative to the decoder's record list: for every
known record (in order) an optional value.  `Stream.Encode` of the present ones, decoded by `Stream.decode` with
that record list, yields exactly the composition of the per-record effects — given that each present record reads
its own value back (`Rec.Reads`). -/

/-- bytes of the present records, in record-list order -/
def encAligned {σ : Type} : List (Rec σ) → List (Option Bytes) → Bytes
  | r :: rs, some v :: vs => encodeRecord (r.typ, v) ++ encAligned rs vs
  | _ :: rs, none :: vs => encAligned rs vs
  | _, _ => []

/-- the types of the present records -/
def typesAligned {σ : Type} : List (Rec σ) → List (Option Bytes) → List Nat
  | r :: rs, some _ :: vs => r.typ :: typesAligned rs vs
  | _ :: rs, none :: vs => typesAligned rs vs
  | _, _ => []

/-- record types strictly increasing, starting at `min`, below 2^64 -/
def IncFrom {σ : Type} : Nat → List (Rec σ) → Prop
  | _, [] => True
  | min, r :: rs => min ≤ r.typ ∧ r.typ < 2 ^ 64 ∧ IncFrom (r.typ + 1) rs

/-- The codec law of one record: the decoder, told the length of `v` (at most `L`), consumes exactly `v` and changes
the decoded values by `f`. -/
def Rec.Reads {σ : Type} (L : Nat) (r : Rec σ) (v : Bytes) (f : σ → σ) : Prop :=
  v.length ≤ L ∧ ∀ rest s, r.dec v.length (v ++ rest) s = .ok (f s, rest)

/-- `Rows L rs vs g`: every present value of `vs` is read back by its record of `rs`, and reading them in order
changes the decoded values by `g` (found by unification from the setters of the table, row by row).  `L` bounds the
values and so the stream (`Rows.length_le`): a nested stream has to fit what the enclosing record may allocate. -/
inductive Rows {σ : Type} (L : Nat) : List (Rec σ) → List (Option Bytes) → (σ → σ) → Prop
  | nil : Rows L [] [] id
  | skip {r rs vs g} : Rows L rs vs g → Rows L (r :: rs) (none :: vs) g
  | read {r rs v vs f g} : r.Reads L v f → Rows L rs vs g → Rows L (r :: rs) (some v :: vs) (g ∘ f)

theorem Rows.optMap {σ α : Type} {L : Nat} {r : Rec σ} {rs vs g} (o : Option α) {enc : α → Bytes} {f : α → σ → σ}
    (h : ∀ a, o = some a → r.Reads L (enc a) (f a)) (hr : Rows L rs vs g) :
    Rows L (r :: rs) (o.map enc :: vs) (g ∘ fun s => o.elim s (f · s)) := by
  cases o with
  | none => exact .skip hr
  | some a => exact .read (h a rfl) hr

theorem Rows.opt {σ : Type} {L : Nat} {r : Rec σ} {rs vs g} (o : Option Bytes) {f : Bytes → σ → σ}
    (h : ∀ v, o = some v → r.Reads L v (f v)) (hr : Rows L rs vs g) :
    Rows L (r :: rs) (o :: vs) (g ∘ fun s => o.elim s (f · s)) := by
  simpa using Rows.optMap (enc := id) o h hr

/-- The loop runs with any table `recs` that `getRecord` cannot tell from `rs` at types from `m` on: the records skipped
since the last one read are still in `recs`, and dropped when `getRecord` looks for the next type on the wire. -/
theorem decodeLoop_rows {σ : Type} {p2p : Bool} {maxAlloc : Nat} {wt : Bool} {L : Nat} (hL : L ≤ maxRecordSize)
    {rs : List (Rec σ)} {vs : List (Option Bytes)} {g : σ → σ} (h : Rows L rs vs g) :
    ∀ (recs : List (Rec σ)) (min m : Nat) (s : σ) (parsed : List Nat) (fuel : Nat),
      (∀ t, m ≤ t → getRecord recs t = getRecord rs t) → min ≤ m → IncFrom m rs →
      (encAligned rs vs).length < fuel →
      decodeLoop p2p maxAlloc wt fuel recs min (encAligned rs vs) s parsed
        = .ok (g s, parsed ++ typesAligned rs vs) := by
  induction h with
  | nil =>
    intro recs min m s parsed fuel _ _ _ hf
    cases fuel with
    | zero => omega
    | succ fuel => simp [encAligned, decodeLoop, readVarInt, typesAligned]
  | @skip r rs vs g _ ih =>
    intro recs min m s parsed fuel hrecs hmin hinc hf
    have := hinc.1
    exact ih recs min (r.typ + 1) s parsed fuel
      (fun t ht => (hrecs t (by omega)).trans (by rw [getRecord, if_neg (by omega), if_pos (by omega)]))
      (by omega) hinc.2.2 hf
  | @read r rs v vs f g hread _ ih =>
    intro recs min m s parsed fuel hrecs hmin hinc hf
    simp only [encAligned, typesAligned, encodeRecord] at *
    cases fuel with
    | zero => omega
    | succ fuel =>
      -- one iteration: both varints read back, the order and size tests pass, `getRecord` finds `r`, `r` reads `v`
      have hmin : ¬ r.typ < min := by have := hinc.1; omega
      have hlen : v.length ≤ maxRecordSize := Nat.le_trans hread.1 hL
      have hget : getRecord recs r.typ = (some r, rs) := by rw [hrecs _ hinc.1, getRecord, if_pos rfl]
      have hrest := ih rs (r.typ + 1) (r.typ + 1) (f s) (parsed ++ [r.typ]) fuel (fun _ _ => rfl) (Nat.le_refl _)
        hinc.2.2 (by
          have := (writeVarInt_length_bounds r.typ).1
          simp only [List.length_append] at hf; omega)
      simp [decodeLoop, List.append_assoc, readVarInt_writeVarInt r.typ hinc.2.1, hmin,
        readVarInt_writeVarInt v.length (by have : maxRecordSize = 65535 := rfl; omega), Nat.not_lt.2 hlen, hget,
        hread.2, hrest]

theorem IncFrom.sortedTypes {σ : Type} : ∀ {m : Nat} {rs : List (Rec σ)}, IncFrom m rs →
    sortedTypes (rs.map (·.typ)) = true
  | _, [], _ => rfl
  | _, [_], _ => rfl
  | _, r :: r' :: rs, h => by
    have ih := IncFrom.sortedTypes h.2.2
    have := h.2.2.1
    simp only [List.map_cons, Pool.Dec.sortedTypes, Bool.and_eq_true, decide_eq_true_eq] at ih ⊢
    exact ⟨by omega, ih⟩

/-- the round trip as the streams of a ticket use it: `tlv.NewStream` + `Stream.decode` on the whole input -/
theorem decodeStream_rows {σ : Type} {p2p : Bool} {maxAlloc : Nat} {wt : Bool} {L : Nat} (hL : L ≤ maxRecordSize)
    {rs : List (Rec σ)} {vs : List (Option Bytes)} {g : σ → σ} (h : Rows L rs vs g) (hinc : IncFrom 0 rs) (s : σ) :
    decodeStream p2p maxAlloc wt rs (encAligned rs vs) s = .ok (g s, typesAligned rs vs) := by
  rw [decodeStream, if_pos hinc.sortedTypes,
    decodeLoop_rows hL h rs 0 0 s [] _ (fun _ _ => rfl) (Nat.le_refl _) hinc (Nat.lt_succ_self _),
    List.nil_append]

theorem decodeBytes_rows {σ : Type} (cfg : Cfg) {L : Nat} (hL : L ≤ maxRecordSize)
    {rs : List (Rec σ)} {vs : List (Option Bytes)} {g : σ → σ} (h : Rows L rs vs g) (hinc : IncFrom 0 rs) (s : σ) :
    decodeBytes cfg rs (encAligned rs vs) s = .ok (g s) := by
  rw [decodeBytes, decodeStream_rows hL h hinc]

/-- each present record takes at most 18 bytes of type and length plus its value -/
theorem Rows.length_le {σ : Type} {L : Nat} {rs : List (Rec σ)} {vs : List (Option Bytes)} {g : σ → σ}
    (h : Rows L rs vs g) : (encAligned rs vs).length ≤ rs.length * (18 + L) := by
  induction h with
  | nil => simp [encAligned]
  | skip _ ih => rw [encAligned, List.length_cons, Nat.succ_mul]; omega
  | @read r _ v _ _ _ hread _ ih =>
    simp only [encAligned, encodeRecord, List.length_append, List.length_cons, Nat.succ_mul]
    have h1 := (writeVarInt_length_bounds r.typ).2
    have h2 := (writeVarInt_length_bounds v.length).2
    have := hread.1
    omega

theorem readFull_append {n : Nat} {v : Bytes} (hv : v.length = n) (rest : Bytes) :
    readFull n (v ++ rest) = .ok (v, rest) := by
  have hlt : ¬ (n + rest.length < n) := by omega
  simp [readFull, hv, hlt, List.take_left' hv, List.drop_left' hv]

theorem dChecked_reads {σ : Type} {L t size : Nat} {check : Bytes → σ → Outcome σ} {v : Bytes} {f : σ → σ}
    (hv : v.length = size) (hs : size ≤ L) (hc : ∀ s, check v s = .ok (f s)) :
    Rec.Reads L ⟨t, dChecked size check⟩ v f :=
  ⟨hv ▸ hs, fun rest s => by simp [dChecked, hv, readFull_append hv, hc]⟩

theorem dStatic_eq_dChecked {σ : Type} (size : Nat) (set : Bytes → σ → σ) :
    dStatic size set = dChecked size fun v s => .ok (set v s) := by
  funext l inp s
  unfold dStatic dChecked
  cases readFull size inp <;> rfl

theorem dStatic_reads {σ : Type} {L t size : Nat} {set : Bytes → σ → σ} {v : Bytes} (hv : v.length = size)
    (hs : size ≤ L) : Rec.Reads L ⟨t, dStatic size set⟩ v (set v) :=
  dStatic_eq_dChecked size set ▸ dChecked_reads hv hs fun _ => rfl

theorem dVarBytes_reads {σ : Type} {L t : Nat} {cfg : Cfg} {set : Bytes → σ → σ} {v : Bytes} (hv : v.length ≤ L)
    (hL : L ≤ cfg.maxAlloc) : Rec.Reads L ⟨t, dVarBytes cfg set⟩ v (set v) :=
  ⟨hv, fun rest s => by simp [dVarBytes, alloc_ok (Nat.le_trans hv hL), readFull_append rfl]⟩

/-- values after decoding: the setters of the present records applied in order -/
def stepAligned {σ : Type} (step : Nat → Bytes → σ → σ) : List (Rec σ) → List (Option Bytes) → σ → σ
  | r :: rs, some v :: vs, s => stepAligned step rs vs (step r.typ v s)
  | _ :: rs, none :: vs, s => stepAligned step rs vs s
  | _, _, s => s

/-- each present record fits the cap and round-trips on its own, all through one `step` (the hypothesis of
`C15_stream_roundtrip`; `Good.rows` turns it into `Rows`, which lets every record have a setter of its own) -/
def Good {σ : Type} (step : Nat → Bytes → σ → σ) : List (Rec σ) → List (Option Bytes) → Prop
  | r :: rs, some v :: vs =>
      v.length ≤ maxRecordSize ∧ (∀ rest s, r.dec v.length (v ++ rest) s = .ok (step r.typ v s, rest)) ∧
      Good step rs vs
  | _ :: rs, none :: vs => Good step rs vs
  | [], [] => True
  | _, _ => False

theorem Good.rows {σ : Type} {step : Nat → Bytes → σ → σ} : ∀ {rs : List (Rec σ)} {vs : List (Option Bytes)},
    Good step rs vs → Rows maxRecordSize rs vs (stepAligned step rs vs)
  | [], [], _ => .nil
  | [], _ :: _, h => h.elim
  | _ :: _, [], h => h.elim
  | _ :: _, none :: _, h => .skip (Good.rows h)
  | _ :: _, some _ :: _, h => .read ⟨h.1, h.2.1⟩ (Good.rows h.2.2)

end Pool.Dec
