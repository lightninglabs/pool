import PoolProofs.C17Spec
/-! C17, funding-parameter part.  `deriveFundingShim` has one normal form for both roles (`derive_ask`, `derive_bid`):
resolve the own multisig key, then `shimFor` of the match.  Maker and taker apply it to the same ask and bid with the
two keys swapped; `shims_agree_wire` reads `ShimsAgree` off that.  The loops over whole batches need only lemmas about
`resFoldl`. -/
namespace Pool.C17

theorem wrapI64_of_range (x : Int) (lo : -2 ^ 63 ≤ x) (hi : x < 2 ^ 63) : wrapI64 x = x := by
  unfold wrapI64
  rw [Int.emod_eq_of_lt (by omega) (by omega), Int.add_sub_cancel]

theorem toSatoshis_of_lt (u : Nat) (h : u * Gen.C17.baseSupplyUnit < 2 ^ 63) :
    toSatoshis u = (u : Int) * (Gen.C17.baseSupplyUnit : Nat) := by
  unfold toSatoshis
  rw [Nat.mod_eq_of_lt (by omega), Int.ofNat_eq_natCast, Int.natCast_mul]
  exact wrapI64_of_range _ (by omega) (by omega)

theorem commitSpec_comm (x y : Nat) : commitSpec x y = commitSpec y x := by
  simp only [commitSpec, or_comm, and_comm]

theorem determineCommitmentType_eq (x y : Nat) :
    determineCommitmentType x y = (commitSpec x y, commitSpec x y == 5) := by
  unfold determineCommitmentType commitSpec
  split
  · rfl
  · split <;> rfl

theorem firstIdx_eq_idxOf? (script : Bytes) (outs : List Bytes) : firstIdx script outs = outs.idxOf? script := by
  induction outs with
  | nil => rfl
  | cons s rest ih => simp only [firstIdx, List.idxOf?_cons, ih, beq_iff_eq]

theorem findScriptOutputIndex_first (script : Bytes) (outs : List Bytes) (hex : ∃ i : Nat, outs[i]? = some script) :
    FirstOutputWith outs script (findScriptOutputIndex outs script) := by
  unfold findScriptOutputIndex
  rw [firstIdx_eq_idxOf?]
  cases h : outs.idxOf? script with
  | none =>
    obtain ⟨i, hi⟩ := hex
    exact absurd (List.mem_of_getElem? hi) (List.idxOf?_eq_none_iff.mp h)
  | some i =>
    obtain ⟨hlt, hi, hmin⟩ := List.idxOf?_eq_some_iff.mp h
    exact ⟨hi ▸ List.getElem?_eq_getElem hlt, fun j hj hjs => hmin j hj (List.getElem?_eq_some_iff.mp hjs).2⟩

/-- a kit as the counterparty receives it: the multisig key locator is not transmitted -/
def Kit.wire (k : Kit) : Kit := { k with keyFamily := 0, keyIndex := 0 }

/-- a bid as the asker receives it: no key locator, no ticket -/
def Bid.wire (b : Bid) : Bid := { b with kit := b.kit.wire, sidecar := none }

theorem projKit_ok {env : Env} {k pk : Kit} {mk nk : Bytes} (h : projKit env k mk nk = some pk) : pk = k.wire := by
  unfold projKit projChannelType at h
  split at h
  · cases h
  · rename_i ct hct
    split at hct
    · cases hct
      split at h
      · exact (Option.some.inj h).symm
      · cases h
    · cases hct

theorem projAsk_ok {env : Env} {k : Kit} {mk nk : Bytes} {u : Nat} {m : MatchedOrder}
    (h : projAsk env k mk nk u = .ok m) : m = ⟨.ask k.wire, mk, nk, u⟩ := by
  unfold projAsk at h
  split at h
  · cases h
  · rename_i pk hpk
    cases projKit_ok hpk
    split at h
    · cases h
    · exact (Proj.ok.inj h).symm

theorem projBid_ok {env : Env} {b : Bid} {mk nk : Bytes} {u : Nat} {m : MatchedOrder}
    (h : projBid env b mk nk u = .ok m) : m = ⟨.bid b.wire, mk, nk, u⟩ := by
  unfold projBid at h
  split at h
  · cases h
  · rename_i pk hpk
    cases projKit_ok hpk
    split at h
    · split at h <;> cases h
    · exact (Proj.ok.inj h).symm

/-- `deriveFundingShim` once the roles and the own multisig key (family, index, public key `ours`) are resolved: the
shim of the match of ask `a` with bid `b`, derived against the counterparty's key `theirs`. -/
def shimFor (env : Env) (a : Kit) (b : Bid) (u : Nat) (tx : BatchTx) (hint : Nat) (theirs : Bytes) :
    Nat × Nat × Bytes → Res (Shim × Bytes)
  | (fam, idx, ours) =>
    match env.fundScript (commitSpec a.channelType b.kit.channelType == 5) ours theirs with
    | none => .err
    | some script =>
      .ok ({ amt := wrapI64 (toSatoshis u + b.selfChanBalance)
             txid := tx.txid
             outputIndex := findScriptOutputIndex tx.outs script
             localKey := ours
             localKeyFamily := toI32 fam
             localKeyIndex := toI32 idx
             remoteKey := theirs
             pendingChanId := env.H (a.nonce ++ b.kit.nonce)
             thawHeight := thawSpec a.channelType b.kit.channelType b.kit.leaseDuration hint
             musig2 := commitSpec a.channelType b.kit.channelType == 5 },
           env.H (a.nonce ++ b.kit.nonce))

theorem ourMultiSigKey_plain {env : Env} {b : Bid} {k : Bytes} (hns : b.sidecar = none)
    (hk : env.deriveKey b.kit.keyFamily b.kit.keyIndex = some k) :
    ourMultiSigKey env (.bid b) = .ok (b.kit.keyFamily, b.kit.keyIndex, k) := by
  simp only [ourMultiSigKey, Order.kit, hns, hk]

theorem derive_ask (env : Env) (a : Kit) (b : Bid) (kb nb : Bytes) (u : Nat) (tx : BatchTx) (hint : Nat) :
    deriveFundingShim env (.ask a) ⟨.bid b, kb, nb, u⟩ tx hint =
      (ourMultiSigKey env (.ask a)).bind (shimFor env a b u tx hint kb) := by
  unfold deriveFundingShim
  simp only [determineCommitmentType_eq]
  rfl

theorem derive_bid (env : Env) (a : Kit) (b : Bid) (ka na : Bytes) (u : Nat) (tx : BatchTx) (hint : Nat) :
    deriveFundingShim env (.bid b) ⟨.ask a, ka, na, u⟩ tx hint =
      (ourMultiSigKey env (.bid b)).bind (shimFor env a b u tx hint ka) := by
  unfold deriveFundingShim
  simp only [Order.kit, determineCommitmentType_eq, commitSpec_comm b.kit.channelType,
    @or_comm (b.kit.channelType = Gen.C17.chanTypeScriptEnforced)]
  rfl

theorem setup_ask (env : Env) (a : Kit) (b : Bid) (kb nb : Bytes) (u : Nat) (tx : BatchTx) (hint : Nat) :
    batchChannelSetup env (.ask a) ⟨.bid b, kb, nb, u⟩ tx hint =
      (deriveFundingShim env (.ask a) ⟨.bid b, kb, nb, u⟩ tx hint).bind fun (shim, _) => .ok (some
        { nodePubkey := nb, localFundingAmount := wrapI64 (toSatoshis u + b.selfChanBalance), shim := shim,
          pushSat := b.selfChanBalance, commitmentType := commitSpec a.channelType b.kit.channelType,
          isPrivate := b.unannounced, zeroConf := b.zeroConf }) := by
  unfold batchChannelSetup
  simp only [determineCommitmentType_eq]

/-- `providerOnly` of `prepRegisters` is false: `b` has no ticket naming another node as recipient -/
def Registers (node : Bytes) (b : Bid) : Prop :=
  ∀ t r, b.sidecar = some t → t.recipient = some r → r.nodeKey = node

theorem Registers.of_plain {node : Bytes} {b : Bid} (h : b.sidecar = none) : Registers node b :=
  fun _ _ ht => nomatch h.symm.trans ht

theorem Registers.of_recipient {node : Bytes} {b : Bid} {t : Ticket} {r : Recipient} (ht : b.sidecar = some t)
    (hr : t.recipient = some r) (hn : r.nodeKey = node) : Registers node b := by
  intro t' r' ht' hr'
  cases ht.symm.trans ht'
  cases hr.symm.trans hr'
  exact hn

theorem prep_bid {env : Env} {node : Bytes} {b : Bid} {m : MatchedOrder} {tx : BatchTx} {hint : Nat}
    (hself : Registers node b) :
    prepRegisters env node (.bid b) m tx hint =
      (deriveFundingShim env (.bid b) m tx hint).bind fun (shim, pid) => .ok (some (shim, pid,
        { nonce := b.kit.nonce, selfChanBalance := b.selfChanBalance, channelType := b.kit.channelType,
          unannounced := b.unannounced, zeroConf := b.zeroConf })) := by
  unfold prepRegisters
  cases hs : b.sidecar with
  | none => simp only [hs]; rfl
  | some t =>
    cases hr : t.recipient with
    | none => simp only [hs, hr]; rfl
    | some r => simp [hs, hr, hself t r hs hr]

/-- Maker and registering side agree, in success and in failure (`o`: does lnd build the funding script).  The
registering side holds a bid `b'` that says what the submitted bid `b` says as far as it crosses the wire (`hw`: the bid
itself, or the dummy bid a sidecar recipient makes from its ticket) and the key `kb` that `b` was submitted with.  The
hash enters only the pending id, so it has to be the same on both sides only where something is registered. -/
theorem shims_agree_wire
    {envA envB : Env} {a : Kit} {b b' : Bid} {fam idx : Nat} {ka kb na nb nodeB : Bytes} {u : Nat}
    {ma mb : MatchedOrder} {o : Option Bytes} (tx : BatchTx) (hint : Nat)
    (hFS : envB.fundScript = envA.fundScript)
    (hsym : ∀ t x y, envA.fundScript t x y = envA.fundScript t y x)
    (hka : envA.deriveKey a.keyFamily a.keyIndex = some ka)
    (hkey : ourMultiSigKey envB (.bid b') = .ok (fam, idx, kb))
    (hself : Registers nodeB b')
    (hw : b'.wire = b.wire)
    (hpa : projAsk envB a ka na u = .ok ma)
    (hpb : projBid envA b kb nb u = .ok mb)
    (hscript : envA.fundScript (commitSpec a.channelType b.kit.channelType == 5) ka kb = o) :
    match o with
    | some script => envB.H = envA.H →
      ∃ req sT pidT eT,
        batchChannelSetup envA (.ask a) mb tx hint = .ok (some req) ∧
        prepRegisters envB nodeB (.bid b') ma tx hint = .ok (some (sT, pidT, eT)) ∧
        ShimsAgree envA.H a b ka kb nb u tx hint script req sT pidT eT
    | none =>
      batchChannelSetup envA (.ask a) mb tx hint = .err ∧ prepRegisters envB nodeB (.bid b') ma tx hint = .err := by
  obtain rfl := projAsk_ok hpa
  obtain rfl := projBid_ok hpb
  simp only [Bid.wire, Kit.wire, Bid.mk.injEq, Kit.mk.injEq] at hw
  obtain ⟨⟨hn, hl, hc, -⟩, hs, hu, hz, -⟩ := hw
  have hkA : ourMultiSigKey envA (.ask a) = .ok (a.keyFamily, a.keyIndex, ka) := by
    simp only [ourMultiSigKey, Order.kit, hka]
  -- both results are `shimFor` of the match of `a` with `b`, the keys swapped
  rw [setup_ask, derive_ask, hkA, prep_bid hself, derive_bid, hkey]
  simp only [Res.bind, shimFor, Bid.wire, Kit.wire, hFS, hsym _ kb, hn, hl, hc, hs, hu, hz, hscript]
  cases o with
  | none => exact ⟨rfl, rfl⟩
  | some script =>
    intro hH
    rw [hH]
    exact ⟨_, _, _, _, rfl, rfl,
      { pid_maker := rfl, pid_taker := rfl, pid_acceptor := rfl, txid := ⟨rfl, rfl⟩, outpoint_same := rfl
        outpoint_first := findScriptOutputIndex_first script tx.outs
        capacity := ⟨rfl, rfl, rfl⟩, keys := ⟨rfl, rfl, rfl, rfl⟩, thaw := ⟨rfl, rfl⟩, commit := rfl
        musig2 := ⟨rfl, beq_iff_eq⟩, push := rfl, announce := rfl, zeroConf := rfl, node := rfl
        acceptor := ⟨rfl, rfl, rfl, rfl, rfl⟩ }⟩

theorem getSidecar_ok {pending : List Ticket} {n : Bytes} {d : Order} (h : getSidecarAsOrder pending n = .ok d) :
    ∃ t', t' ∈ pending ∧ t'.orderBidNonce = some n ∧
      d = .bid { kit := { nonce := n, leaseDuration := t'.offer.leaseDurationBlocks, channelType := 0,
                          keyFamily := 0, keyIndex := 0 },
                 selfChanBalance := t'.offer.pushAmt, unannounced := t'.offer.unannounced,
                 zeroConf := t'.offer.zeroConf, sidecar := some t' } := by
  induction pending with
  | nil => cases h
  | cons t rest ih =>
    unfold getSidecarAsOrder at h
    split at h
    · cases h
    · rename_i m hm
      split at h
      · subst m
        exact ⟨t, List.mem_cons_self, hm, (Res.ok.inj h).symm⟩
      · obtain ⟨t', ht', h'⟩ := ih h
        exact ⟨t', List.mem_cons_of_mem _ ht', h'⟩

theorem offerSidecarOK_lease {offer : Offer} (ho : offerSidecarOK offer = true) : offer.leaseDurationBlocks ≠ 0 := by
  unfold offerSidecarOK at ho
  simp only [Bool.and_eq_true, bne_iff_ne] at ho
  exact ho.1.1.1

theorem Res.bind_eq_ok {α β : Type} {r : Res α} {f : α → Res β} {b : β} :
    r.bind f = .ok b ↔ ∃ a, r = .ok a ∧ f a = .ok b := by
  cases r <;> simp [Res.bind]

theorem resFoldl_append {σ α : Type} (f : σ → α → Res σ) (s : σ) (xs ys : List α) :
    resFoldl f s (xs ++ ys) = (resFoldl f s xs).bind fun s' => resFoldl f s' ys := by
  induction xs generalizing s with
  | nil => rfl
  | cons x rest ih =>
    simp only [List.cons_append, resFoldl]
    cases f s x with
    | ok s' => exact ih s'
    | _ => rfl

theorem resFoldl_map {σ α β : Type} (f : σ → β → Res σ) (g : α → β) (s : σ) (xs : List α) :
    resFoldl f s (xs.map g) = resFoldl (fun s x => f s (g x)) s xs := by
  induction xs generalizing s with
  | nil => rfl
  | cons x rest ih => simp only [List.map_cons, resFoldl, ih]

theorem resFoldl_flatMap {σ α β : Type} (f : σ → β → Res σ) (g : α → List β) (s : σ) (xs : List α) :
    resFoldl f s (xs.flatMap g) = resFoldl (fun s x => resFoldl f s (g x)) s xs := by
  induction xs generalizing s with
  | nil => rfl
  | cons x rest ih => simp only [List.flatMap_cons, resFoldl_append, resFoldl, ih]

theorem resFoldl_flatPairs {σ : Type} (g : Order → σ → MatchedOrder → Res σ) (s : σ)
    (batch : List (Order × List MatchedOrder)) :
    resFoldl (fun st (e : Order × List MatchedOrder) => resFoldl (g e.1) st e.2) s batch =
    resFoldl (fun st (p : Order × MatchedOrder) => g p.1 st p.2) s (flatPairs batch) := by
  simp only [flatPairs, resFoldl_flatMap, resFoldl_map]

theorem resFoldl_collect {σ α β : Type} (f : σ → α → Res σ) (π : σ → List β) (g : α → β) (xs : List α)
    (h : ∀ s a, a ∈ xs → ∃ s', f s a = .ok s' ∧ π s' = π s ++ [g a]) (s : σ) :
    ∃ s', resFoldl f s xs = .ok s' ∧ π s' = π s ++ xs.map g := by
  induction xs generalizing s with
  | nil => exact ⟨s, rfl, (List.append_nil _).symm⟩
  | cons a rest ih =>
    obtain ⟨s1, h1, hp1⟩ := h s a List.mem_cons_self
    obtain ⟨s', h2, hp2⟩ := ih (fun s b hb => h s b (List.mem_cons_of_mem _ hb)) s1
    refine ⟨s', ?_, ?_⟩
    · simp only [resFoldl, h1, Res.bind, h2]
    · rw [hp2, hp1, List.map_cons, List.append_assoc, List.singleton_append]

theorem resFoldl_inv {σ α : Type} {f : σ → α → Res σ} (P : σ → Prop)
    (hstep : ∀ s a s', f s a = .ok s' → P s → P s') {xs : List α} {s0 s : σ}
    (h0 : P s0) (h : resFoldl f s0 xs = .ok s) : P s := by
  induction xs generalizing s0 with
  | nil => cases h; exact h0
  | cons a rest ih =>
    obtain ⟨s1, ha, h⟩ := Res.bind_eq_ok.mp h
    exact ih (hstep s0 a s1 ha h0) h

theorem lndLookup_append (l : LndShims) (p q : Bytes) (sh : Shim) :
    lndLookup (l ++ [(p, sh)]) q =
      match lndLookup l q with
      | some x => some x
      | none => if p = q then some sh else none := by
  induction l with
  | nil => simp [lndLookup]
  | cons e rest ih =>
    obtain ⟨p', s'⟩ := e
    simp only [List.cons_append, lndLookup]
    split
    · rfl
    · exact ih

theorem lndRegister_some {l l' : LndShims} {p : Bytes} {s : Shim} (h : lndRegister l p s = some l') :
    lndLookup l p = none ∧ l' = l ++ [(p, s)] := by
  unfold lndRegister at h
  split at h
  · cases h
  · exact ⟨‹_›, (Option.some.inj h).symm⟩

/-- Invariant of `PrepChannelFunding` against an lnd that held `lnd0` at the start: every registration of this call
is what lnd holds for its pending id, lnd held nothing for that id before, and lnd has lost nothing it held. -/
def Held (lnd0 : LndShims) (st : PrepSt) : Prop :=
  (∀ r, r ∈ st.out.regs → lndLookup st.lnd r.2.1 = some r.1 ∧ lndLookup lnd0 r.2.1 = none) ∧
  ∀ q sh, lndLookup lnd0 q = some sh → lndLookup st.lnd q = some sh

theorem prepMatchLnd_held (env : Env) (node : Bytes) (o : Order) (tx : BatchTx) (hint : Nat) (lnd0 : LndShims)
    (st : PrepSt) (m : MatchedOrder) (st' : PrepSt)
    (h : prepMatchLnd env node o tx hint st m = .ok st') (hinv : Held lnd0 st) : Held lnd0 st' := by
  obtain ⟨r, -, h⟩ := Res.bind_eq_ok.mp h
  cases r with
  | none => cases h; exact hinv
  | some x =>
    dsimp only at h
    split at h
    · cases h
    · rename_i l hl
      cases h
      obtain ⟨hnew, rfl⟩ := lndRegister_some hl
      obtain ⟨hheld, hkeeps⟩ := hinv
      refine ⟨fun r hr' => ?_, fun q sh hq => ?_⟩
      · cases List.mem_append.mp hr' with
        | inl hin =>
          obtain ⟨h1, h2⟩ := hheld r hin
          exact ⟨by rw [lndLookup_append, h1], h2⟩
        | inr heq =>
          cases List.mem_singleton.mp heq
          refine ⟨by rw [lndLookup_append, hnew, if_pos rfl], ?_⟩
          -- had lnd held a shim for this id before, it would still hold it and the register call had failed
          cases h0 : lndLookup lnd0 x.2.1 with
          | none => rfl
          | some sh => rw [hkeeps _ _ h0] at hnew; cases hnew
      · rw [lndLookup_append, hkeeps q sh hq]

end Pool.C17
