import PoolProofs.C08Ops
/-! The documented lifecycle relation `Legal`; the record invariant I1 and the closed-account predicate `ClosedQuiet`, each
with its preservation by the handlers of the model. -/
namespace Pool.C08

/-- the documented lifecycle (account/interfaces.go state comments, `HandleAccount*` comments), written by hand,
independent of the switch tables -/
def Legal : State → State → Bool
  | .initiated, t => t == .pendingOpen || t == .canceled || t == .closed
  | .pendingOpen, t => t == .open_ || t == .closed
  | .pendingUpdate, t => t == .open_ || t == .expiredPendingUpdate || t == .closed
  | .pendingBatch, t => t == .open_ || t == .expiredPendingUpdate || t == .closed || t == .pendingBatch
      || t == .pendingClosed
  | .open_, t => t == .pendingUpdate || t == .expired || t == .pendingClosed || t == .pendingBatch || t == .closed
  | .expired, t => t == .pendingUpdate || t == .pendingClosed || t == .closed || t == .pendingBatch
  | .expiredPendingUpdate, t => t == .expired || t == .closed || t == .pendingBatch || t == .pendingClosed
  | .pendingClosed, t => t == .closed
  | .closed, _ => false
  | .canceled, _ => false

/-- states in which the stored outpoint must be an output of the stored latest transaction -/
def State.live : State → Bool
  | .pendingOpen | .pendingUpdate | .pendingBatch | .open_ | .expired | .expiredPendingUpdate => true
  | _ => false

/-- **I1** for one record: in a live state the latest transaction is the outpoint's and its output there carries the
stored value and script; while closing, the latest transaction spends the stored outpoint. -/
def RecOK0 (key : Nat) (a : Acct) : Prop :=
  (a.state.live = true → ∃ t, a.latestTx = some t ∧ t.id = a.outpoint.txid ∧
      t.outAt a.outpoint.idx = some (a.out key)) ∧
  (a.state = .pendingClosed → ∃ t, a.latestTx = some t ∧ a.outpoint ∈ t.spends)

/-- … and (clientdb) a stored record in `StateInitiated` carries no transaction. -/
def RecOK (key : Nat) (a : Acct) : Prop :=
  RecOK0 key a ∧ (a.state = .initiated → a.latestTx = none)

theorem RecOK.toRecOK0 {key : Nat} {a : Acct} (h : RecOK key a) : RecOK0 key a := h.1

theorem RecOK.noTx {key : Nat} {a : Acct} (h : RecOK key a) (h0 : a.state = .initiated) : a.latestTx = none := h.2 h0

/-- what the model's wallet holds -/
def Tx.single (t : Tx) : Prop := t.outs.length ≤ 1

/-- **I1** for a machine state; wallet transactions are single-output so that `locate` and `outAt` agree -/
structure Inv1 (s : AState) : Prop where
  acctOK : ∀ a, s.acct = some a → RecOK s.key a
  stagedOK : ∀ a, s.staged = some a → RecOK s.key a
  walletOK : ∀ t ∈ s.wallet, t.single

theorem recOK_stored {key : Nat} {a : Acct} (h : RecOK0 key a) : RecOK key a.stored := by
  unfold Acct.stored
  split
  · rename_i hs
    refine ⟨⟨?_, ?_⟩, fun _ => rfl⟩
    · intro hl; rcases hs with hs | hs <;> simp [hs, State.live] at hl
    · intro hc; rcases hs with hs | hs <;> simp [hs] at hc
  · rename_i hs
    exact ⟨h, fun h0 => absurd (Or.inl h0) hs⟩

theorem recOK_state {key : Nat} {a : Acct} (h : RecOK0 key a) (t : State) (hh : Nat)
    (hl : t.live = true → a.state.live = true) (hc : t ≠ .pendingClosed) :
    RecOK0 key { a with state := t, heightHint := hh } :=
  ⟨fun h1 => h.1 (hl h1), fun h2 => absurd h2 hc⟩

theorem recOK_idle {key : Nat} {a : Acct} (hl : a.state.live = false) (hc : a.state ≠ .pendingClosed) :
    RecOK0 key a :=
  ⟨fun h => absurd (hl ▸ h) (by simp), fun h => absurd h hc⟩

theorem recOK_live {key : Nat} {a : Acct} {t : Tx} (hc : a.state ≠ .pendingClosed) (ht : a.latestTx = some t)
    (hid : t.id = a.outpoint.txid) (hout : t.outAt a.outpoint.idx = some (a.out key)) : RecOK0 key a :=
  ⟨fun _ => ⟨t, ht, hid, hout⟩, fun h => absurd h hc⟩

theorem recOK_closing {key : Nat} {a : Acct} {t : Tx} (hs : a.state = .pendingClosed) (ht : a.latestTx = some t)
    (hsp : a.outpoint ∈ t.spends) : RecOK0 key a :=
  ⟨fun h => by simp [hs, State.live] at h, fun _ => ⟨t, ht, hsp⟩⟩

theorem RecOK0.carriesTx {key : Nat} {a : Acct} (h : RecOK0 key a) : CarriesTx a :=
  ⟨fun hs => (h.1 (by rw [hs]; rfl)).imp fun _ ht => ⟨ht.1, ht.2.1⟩, fun hs => (h.2 hs).imp fun _ ht => ht.1⟩

protected theorem Inv1.write {s : AState} (i : Inv1 s) {a : Acct} (h : RecOK0 s.key a) : Inv1 (write s a) :=
  ⟨fun b e => by simp at e; subst e; exact recOK_stored h, i.stagedOK, i.walletOK⟩

protected theorem Inv1.maybeBroadcast {s : AState} (i : Inv1 s) (t : Tx) : Inv1 (maybeBroadcast s t) := by
  unfold maybeBroadcast
  split
  · exact ⟨i.acctOK, i.stagedOK, i.walletOK⟩
  · exact i

theorem Inv1.storeInv : StoreInv Inv1 where
  same h i := ⟨fun a e => h.key ▸ i.acctOK a (h.acct ▸ e), fun a e => h.key ▸ i.stagedOK a (h.staged ▸ e),
    fun t ht => i.walletOK t (h.wallet ▸ ht)⟩
  onExpiry {s} i := by
    refine handleExpiry_cases s (fun _ => i) fun a t ha ht => i.write ?_
    refine recOK_state (i.acctOK a ha).toRecOK0 t a.heightHint (fun _ => ?_) ?_
    · rcases expiryNext_to ht with ⟨h, _⟩ | ⟨h | h, _⟩ <;> rw [h] <;> rfl
    · rcases expiryNext_to ht with ⟨_, rfl⟩ | ⟨_, rfl⟩ <;> nofun

protected theorem Inv1.watchers {s : AState} (i : Inv1 s) (a : Acct) (acts : List String) : Inv1 (watchers s a acts) :=
  Inv1.storeInv.watchers i a acts

protected theorem Inv1.resumeRest {s : AState} (i : Inv1 s) (a : Acct) (onRestart : Bool) :
    Inv1 (resumeRest s a onRestart).1 :=
  Inv1.storeInv.resumeRest i a onRestart fun t _ => i.maybeBroadcast t

theorem single_out {t : Tx} (hs : t.single) {sc : Script} {i v : Nat}
    (hl : t.locate sc = some i) (hv : (t.outAt i).map (·.value) = some v) :
    t.outAt i = some ⟨v, sc⟩ := by
  obtain ⟨id, spends, outs, signed, wit⟩ := t
  match outs, hs with
  | [], _ => cases hl
  | [(j, o)], _ =>
    cases hb : o.script == sc with
    | false => simp [Tx.locate, List.find?, hb] at hl
    | true =>
      obtain rfl : j = i := by simpa [Tx.locate, List.find?, hb] using hl
      obtain rfl : o.script = sc := eq_of_beq hb
      obtain rfl : o.value = v := by simpa [Tx.outAt, List.lookup] using hv
      simp [Tx.outAt, List.lookup]
  | _ :: _ :: _, hs => simp [Tx.single] at hs

protected theorem Inv1.resume {s : AState} (i : Inv1 s) (a : Acct) (r1 r2 fee : Bool) (f : Option (Nat × Nat))
    (hfull : a.state = .initiated → ∀ t, a.latestTx = some t → t.single) :
    Inv1 (resume s a r1 r2 fee f).1 := by
  refine resume_cases (P := fun x => Inv1 x.1) s a r1 r2 fee f (fun _ => i.resumeRest a r1) (fun _ _ => i)
    (fun _ _ _ _ => i.write (recOK_idle rfl (by simp))) fun hinit s' t idx hf hidx => ?_
  obtain ⟨j, hj, hv⟩ := txHasOutput_spec hf.hasOutput
  obtain rfl : idx = j := Option.some.inj (hidx.symm.trans hj)
  -- the located / created transaction is single-output, so the located output is the one at `idx`
  have ⟨i', hs⟩ : Inv1 s' ∧ t.single := by
    cases hf with
    | located hloc => exact ⟨i, (locateTxByOutput_spec hloc).2.elim (i.walletOK t) (hfull hinit t)⟩
    | created =>
      refine ⟨⟨i.acctOK, i.stagedOK, fun t ht => ?_⟩, by simp [Tx.single]⟩
      rcases List.mem_append.mp ht with ht | ht
      · exact i.walletOK t ht
      · rw [List.mem_singleton.mp ht]; simp [Tx.single]
  refine Inv1.resumeRest (i'.write (recOK_live (by simp) rfl rfl ?_)) _ _
  rw [hf.key]
  exact single_out hs hj hv

protected theorem Inv1.modify {s : AState} (i : Inv1 s) (k : Kind) (m : ModArgs) : Inv1 (modify s k m).1 := by
  refine modify_cases (P := fun x => Inv1 x.1) s k m i fun a a' t _ _ hs ht hid hout _ => ?_
  have hw : Inv1 (maybeBroadcast (write s a') t) :=
    Inv1.maybeBroadcast (i.write (recOK_live (by simp [hs]) ht hid hout)) t
  exact ⟨hw, Inv1.storeInv.watchExpiration hw _⟩

theorem Inv1.handlerInv : HandlerInv Inv1 where
  toStoreInv := Inv1.storeInv
  onConf {s} i height := by
    refine handleConf_cases s height (fun _ => i) fun a t ha ht => Inv1.storeInv.handleStateOpen (i.write ?_) _
    have hw : waitsForConf a.state = true := by rw [← confNext_isSome, ht]; rfl
    have hlive : a.state.live = true := by revert hw; cases a.state <;> decide
    exact recOK_state (i.acctOK a ha).toRecOK0 t height (fun _ => hlive)
      (by rcases confNext_target ht with rfl | rfl <;> simp)
  onComplete {s} i := completeOnly_cases s (fun _ => i) fun b hb =>
    have := i.write (i.stagedOK b hb).toRecOK0
    ⟨this.acctOK, fun _ e => (nomatch e), this.walletOK⟩
  onSpend i _ _ _ := i.write (recOK_idle rfl nofun)
  onResume {s a} i ha onRestart fee f :=
    i.resume a onRestart false fee f fun h0 t ht => by rw [(i.acctOK a ha).noTx h0] at ht; cases ht
  onModify := Inv1.modify
  onClose {s} i height t ok sg := close_cases (P := fun x => Inv1 x.1) s height t ok sg (fun _ => i) fun _ t _ _ ht =>
    Inv1.maybeBroadcast (i.write (recOK_closing rfl rfl (by simp [ht]))) t
  onDropStage i := ⟨i.acctOK, fun _ e => (nomatch e), i.walletOK⟩

/-- assumed of the environment: the record the auctioneer reports on recovery is consistent with its own latest
transaction, and the wallet's / the reported transactions are single-output -/
def OpOK (key : Nat) : Op → Prop
  | .recover a known => RecOK0 key a ∧ (∀ t ∈ known, t.single) ∧ (∀ t, a.latestTx = some t → t.single)
  | _ => True

protected theorem Inv1.step {s : AState} (i : Inv1 s) (op : Op) (hop : OpOK s.key op) : Inv1 (step s op).1 := by
  refine Inv1.handlerInv.step s op i (fun _ _ _ _ _ _ => ?onInit) (fun g _ => ?onStage) fun a known e => ?onRecover
  case onInit =>
    unfold initAccount
    exact Inv1.resume (i.write (recOK_idle rfl (by simp))) _ _ _ _ _ fun _ _ => nofun
  case onStage =>
    refine stage_cases (P := fun x => Inv1 x.1) s g i fun b t ht hb =>
      ⟨i.acctOK, fun _ e => Option.some.inj e ▸ ?_, i.walletOK⟩
    rcases hb with ⟨hs, hid, hout⟩ | ⟨hs, hsp⟩
    · exact ⟨recOK_live (by simp [hs]) ht hid hout, fun h => by simp [hs] at h⟩
    · exact ⟨recOK_closing hs ht hsp, fun h => by simp [hs] at h⟩
  case onRecover =>
    subst e
    obtain ⟨h1, h2, h3⟩ := hop
    have h1 : RecOK0 s.key { a with secret := s.signerSecret } := h1
    exact Inv1.resume (Inv1.write (s := { s with wallet := known }) ⟨i.acctOK, i.stagedOK, h2⟩ h1) _ _ _ _ _ fun _ => h3

def ClosedQuiet (s : AState) : Prop := (∃ a, s.acct = some a ∧ a.state = .closed) ∧ s.staged = none

protected theorem ClosedQuiet.write {s : AState} (c : ClosedQuiet s) {a : Acct} (ha : a.state = .closed) :
    ClosedQuiet (write s a) :=
  ⟨⟨a.stored, rfl, (stored_state a).trans ha⟩, c.2⟩

theorem ClosedQuiet.state {s : AState} (c : ClosedQuiet s) {a : Acct} (ha : s.acct = some a) : a.state = .closed := by
  obtain ⟨⟨b, hb, hst⟩, _⟩ := c
  exact Option.some.inj (hb.symm.trans ha) ▸ hst

theorem ClosedQuiet.storeInv : StoreInv ClosedQuiet where
  same hs c := ⟨hs.acct ▸ c.1, hs.staged ▸ c.2⟩
  onExpiry {s} c := by
    refine handleExpiry_cases s (fun _ => c) fun a t ha ht => ?_
    rcases expiryNext_to ht with ⟨h, _⟩ | ⟨h | h, _⟩ <;> rw [c.state ha] at h <;> cases h

theorem ClosedQuiet.not_open_or_expired {s : AState} (c : ClosedQuiet s) {a : Acct} (ha : s.acct = some a)
    (hst : a.state = .open_ ∨ a.state = .expired) : False := by
  rcases hst with h | h <;> rw [c.state ha] at h <;> cases h

theorem ClosedQuiet.handlerInv : HandlerInv ClosedQuiet where
  toStoreInv := ClosedQuiet.storeInv
  onConf {s} c height := handleConf_cases s height (fun _ => c) fun a t ha ht => by
    have := confNext_isSome a.state
    rw [ht, c.state ha] at this
    cases this
  onComplete {s} c := completeOnly_cases s (fun _ => c) fun _ hb => nomatch c.2.symm.trans hb
  onSpend c _ _ _ := c.write rfl
  onResume {s a} c ha onRestart fee f := by
    have hst := c.state ha
    have hne : a.state ≠ .initiated := by simp [hst]
    refine resume_cases (P := fun x => ClosedQuiet x.1) s a onRestart false fee f (fun _ => ?_)
      (fun h => absurd h hne) (fun h => absurd h hne) fun h => absurd h hne
    -- the clause of a closed account rebroadcasts nothing
    refine ClosedQuiet.storeInv.resumeRest c a onRestart fun t ht => ?_
    rcases ht.due with ⟨h, _⟩ | h <;> rw [hst] at h <;> cases h
  onModify {s} c k m := modify_cases (P := fun x => ClosedQuiet x.1) s k m c
    fun _ _ _ ha hst _ _ _ _ _ => (c.not_open_or_expired ha hst).elim
  onClose {s} c height t ok sg := close_cases (P := fun x => ClosedQuiet x.1) s height t ok sg (fun _ => c)
    fun _ _ ha hst _ => (c.not_open_or_expired ha hst).elim
  onDropStage c := ⟨c.1, rfl⟩

end Pool.C08
