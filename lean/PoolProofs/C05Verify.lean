import PoolProofs.C05
import PoolModel.Batch
/-! The C05 theorems hold for every `verifyOk : St → Batch → Bool`.  Here it is instantiated with the model of
`batchVerifier.Verify` that C01–C03 are proved about (`Pool.Batch.verify`), through an arbitrary concretisation
`VerifyCtx` of the abstract C05 data.  No property of the concretisation is needed: whatever it is, signatures are
only released for a batch whose concretisation `Verify` accepted in the state in which it was proposed. -/
namespace Pool.C05

structure VerifyCtx where
  env : St → Pool.Batch.Env          -- what the verifier reads from the trader's store and wallet in a manager state
  rules : Pool.Batch.Rules
  best : St → UInt32                 -- the best height handed to `OrderMatchValidate`
  conc : Batch → Pool.Batch.Batch    -- the fields of `order.Batch` the verifier reads

def VerifyCtx.verifyOk (c : VerifyCtx) (s : St) (b : Batch) : Bool :=
  match Pool.Batch.verify (c.env s) c.rules (c.conc b) (c.best s) with
  | .ok _ => true
  | .error _ => false

theorem VerifyCtx.verifyOk_iff (c : VerifyCtx) (s : St) (b : Batch) :
    c.verifyOk s b = true ↔ ∃ t, Pool.Batch.verify (c.env s) c.rules (c.conc b) (c.best s) = .ok t := by
  unfold VerifyCtx.verifyOk
  cases Pool.Batch.verify (c.env s) c.rules (c.conc b) (c.best s) <;> simp

/-- **C05 with the real verifier model.**  In every history, every release of signatures was made for a batch
that `Pool.Batch.verify` accepted (returning the account tallies `t`) in the manager state `s0` in which it
was proposed, and consists of exactly the ideal signatures for that batch's diffs over its transaction. -/
theorem C05_sign_only_batches_Verify_accepted (c : VerifyCtx) (accts : List Acct) (orders : List Ord)
    (ops : List Op) (r : Release)
    (hr : r ∈ (grun c.verifyOk (initSt accts orders) ⟨none, none, []⟩ ops).2.log) :
    ∃ b s0 t, r.batch = some b ∧ r.verifiedAt = some s0 ∧
      Pool.Batch.verify (c.env s0) c.rules (c.conc b) (c.best s0) = .ok t ∧
      Forall2 (SigFor r.db b.tx r.prev) b.diffs r.sigs := by
  obtain ⟨b, s0, h1, h2, h3, h4⟩ := C05_sign_only_pending c.verifyOk accts orders ops r hr
  obtain ⟨t, ht⟩ := (c.verifyOk_iff s0 b).1 h3
  exact ⟨b, s0, t, h1, h2, ht, h4⟩

/-- a proposal the `Verify` model rejects never becomes the pending batch and never changes what is signed -/
theorem C05_Verify_rejected_changes_nothing (c : VerifyCtx) (s : St) (b : Batch) (e : Pool.Batch.Err)
    (h : Pool.Batch.verify (c.env s) c.rules (c.conc b) (c.best s) = .error e) :
    (validate c.verifyOk s b) = (s, some .verify) := by
  have : c.verifyOk s b = false := by unfold VerifyCtx.verifyOk; rw [h]
  simp [validate, this]

end Pool.C05
