import PoolProofs.C05Lemmas
import PoolProofs.Guard
/-! The `Sign` case of `handleServerMessage`: its trace properties hold for every program that passes the structural
check `safeSign` (a harmless reordering of the Go statements breaks nothing), by the invariant `Phi` between the
check's abstract state and the handler state.  Only `BatchSign`, the error check after it and `sendSignBatch` need
an argument of their own; all other statements go through the frame lemma `hStep_neutral`. -/
namespace Pool.C05

/-- What the check knows after the statements read so far: `noSig` no `BatchSign` yet; `afterCall` a `BatchSign` whose
error check is still to come; `signed` the last `BatchSign` has been checked, so sending is allowed; `stopped` a `ret`
has been read and the rest is dead code; `bad` rejected for good. -/
inductive Abs | noSig | afterCall | signed | stopped | bad
deriving DecidableEq, Repr

/-- The arms overlap and the first that matches decides: right after a call everything but `iferrReject` is `bad`,
also a second `batchSign` or a `ret`. -/
def absStep : Abs → HStmt → Abs
  | .bad, _ => .bad
  | .stopped, _ => .stopped
  | .afterCall, .iferrReject => .signed
  | .afterCall, _ => .bad
  | _, .batchSign => .afterCall
  | .noSig, .sendSign => .bad
  | _, .ret => .stopped
  | a, _ => a

/-- every `batchSign` is directly followed by `iferrReject`, `sendSign` comes only after such a checked call, and
the program ends with `ret` -/
def safeSign (prog : List HStmt) : Bool := prog.foldl absStep .noSig == .stopped

/-- outcome of the most recent `BatchSign` in a newest-first trace -/
def lastSign : List Ev → Option Bool
  | [] => none
  | .batchSign ok :: _ => some ok
  | .parseSign :: rest => lastSign rest
  | .chanSetup :: rest => lastSign rest
  | .sendSign _ _ _ :: rest => lastSign rest
  | .sendReject :: rest => lastSign rest

/-- what a sign message carries: the results of a successful `BatchSign` in some state that is `SameCore` to the
state `s` the handler was entered with, and – as ghost – the staging area that `BatchSign` left -/
def FromBatchSign (s : St) (env : HEnv) (S : List Sig) (N : List Key) (g : Option Staged) : Prop :=
  ∃ s0 s1, SameCore s0 s ∧ batchSign s0 env.faults = (s1, .ok S N) ∧ g = s1.db.staged

def GoodTr (s : St) (env : HEnv) (tr : List Ev) : Prop :=
  ∀ S N g pre, .sendSign S N g :: pre <:+ tr → lastSign pre = some true ∧ FromBatchSign s env S N g

variable {s : St} {env : HEnv}

theorem GoodTr.nil : GoodTr s env [] :=
  fun _ _ _ _ h => nomatch List.suffix_nil.1 h

theorem GoodTr.cons {tr : List Ev} {e : Ev} (h : GoodTr s env tr)
    (he : ∀ S N g, e = .sendSign S N g → lastSign tr = some true ∧ FromBatchSign s env S N g) :
    GoodTr s env (e :: tr) := by
  intro S N g pre hs
  rcases List.suffix_cons_iff.1 hs with heq | hs
  · cases heq
    exact he S N g rfl
  · exact h S N g pre hs

def NoFail (tr : List Ev) : Prop := Ev.batchSign false ∉ tr

theorem NoFail.cons {tr : List Ev} {e : Ev} (h : NoFail tr) (he : .batchSign false ≠ e) : NoFail (e :: tr) :=
  List.not_mem_cons_of_ne_of_not_mem he h

def Ready (s : St) (env : HEnv) (x : HS) : Prop :=
  lastSign x.trace = some true ∧ FromBatchSign s env x.sigs x.tnonces x.st.db.staged

/-- at most one `BatchSign` has failed, and then the reject followed at once (the trace is newest first) – unless the
handler panicked -/
inductive FailShape (x : HS) : Prop
  | noFail : NoFail x.trace → FailShape x
  | panicked : x.panicked = true → FailShape x
  | rejected (tr' : List Ev) : x.trace = .sendReject :: .batchSign false :: tr' → NoFail tr' → FailShape x

structure Running (s : St) (env : HEnv) (x : HS) : Prop where
  live : ¬x.done = true
  good : GoodTr s env x.trace
  same : SameCore x.st s
  noFail : NoFail x.trace

/-- The invariant between the check's abstract state and the handler state.  Right after a `BatchSign` statement it
only remembers the handler before the call: the call and the error check that `safeSign` demands next are taken
together (`Phi.checkedCall`), so the `err` flag never enters.  The rejecting abstract state demands nothing. -/
inductive Phi (s : St) (env : HEnv) : Abs → HS → Prop
  | stable {a x} : Running s env x → a = .noSig ∨ a = .signed ∧ Ready s env x → Phi s env a x
  | called {x} : Running s env x → Phi s env .afterCall (hStep env x .batchSign)
  | returned {a x} : x.done = true → GoodTr s env x.trace → FailShape x → Phi s env a x
  | bad {x} : Phi s env .bad x

variable {a : Abs} {x : HS}

/-- what a statement other than `BatchSign` and `sendSignBatch` can do to a running handler -/
inductive Neutral (x : HS) : HS → Prop
  | same : Neutral x x
  | halt (p : Bool) : Neutral x { x with done := true, panicked := p }
  | reject : Neutral x { x with trace := .sendReject :: x.trace, done := true }
  | parse (b : Bool) : Neutral x { x with trace := .parseSign :: x.trace, err := b }
  | chan (b : Bool) : Neutral x { x with trace := .chanSetup :: x.trace, err := b }
  | attach (ns : List Key) (pv : List Out) : Neutral x { x with st := attachAux x.st ns pv }

theorem hStep_neutral (env : HEnv) (x : HS) (st : HStmt) (hd : ¬x.done = true)
    (h1 : st ≠ .batchSign) (h2 : st ≠ .sendSign) : Neutral x (hStep env x st) := by
  unfold hStep
  rw [if_neg hd]
  cases st
  case pendingCall | skip => exact .same
  case parse => exact .parse _
  case chanSetup => exact .chan _
  case ret => exact .halt _
  case batchSign | sendSign => contradiction
  case assignNonces | assignPrev => exact guard_cases (.halt _) fun _ => .attach _ _
  case ifnilBatch rej => exact guard_cases .same fun _ => guard_cases .reject fun _ => .halt _
  case iferrReject => exact guard_cases .same fun _ => guard_cases (.halt _) fun _ => .reject
  case iferrReturn => exact guard_cases (.halt _) fun _ => .same

theorem Phi.neutral {x' : HS} (hn : Neutral x x') (hr : Running s env x)
    (ha : a = .noSig ∨ a = .signed ∧ Ready s env x) : Phi s env a x' := by
  cases hn with
  | same => exact .stable hr ha
  | halt p => exact .returned rfl hr.good (.noFail hr.noFail)
  | reject => exact .returned rfl (hr.good.cons nofun) (.noFail (hr.noFail.cons nofun))
  -- `Ready` reads `lastSign x.trace`, the signature variables and `x.st.db.staged`: the next three arms change none
  | parse b | chan b => exact .stable ⟨hr.live, hr.good.cons nofun, hr.same, hr.noFail.cons nofun⟩ ha
  | attach ns pv => exact .stable ⟨hr.live, hr.good, hr.same.attach ns pv, hr.noFail⟩ ha

theorem Phi.send (hr : Running s env x) (ha : a = .noSig ∨ a = .signed ∧ Ready s env x) :
    Phi s env (absStep a .sendSign) (hStep env x .sendSign) := by
  rcases ha with rfl | ⟨rfl, hrd⟩
  -- `absStep` admits `sendSignBatch` in `signed` only
  · exact .bad
  · unfold hStep
    rw [if_neg hr.live]
    exact .stable ⟨hr.live, hr.good.cons fun _ _ _ he => by cases he; exact hrd, hr.same, hr.noFail.cons nofun⟩
      (.inr ⟨rfl, hrd⟩)

theorem hStep_of_done {st : HStmt} (hd : x.done = true) : hStep env x st = x := by
  unfold hStep
  rw [if_pos hd]

theorem Phi.checkedCall (hr : Running s env x) :
    Phi s env .signed (hStep env (hStep env x .batchSign) .iferrReject) := by
  have hk := hr.same.batchSign env.faults
  generalize hy : hStep env x .batchSign = y
  unfold hStep at hy
  rw [if_neg hr.live] at hy
  cases hbs : batchSign x.st env.faults with
  | mk st' o =>
    rw [hbs] at hk hy
    subst hy
    cases o with
    | ok S N =>
      -- after a successful call the handler runs on, and the check is one more neutral statement
      exact Phi.neutral (hStep_neutral env _ _ hr.live nofun nofun)
        ⟨hr.live, hr.good.cons nofun, hk, hr.noFail.cons nofun⟩ (.inr ⟨rfl, rfl, x.st, st', hr.same, hbs, rfl⟩)
    | panic =>
      rw [hStep_of_done rfl]
      exact .returned rfl hr.good (.panicked rfl)
    | errSign | errStore =>
      unfold hStep
      simp only [if_neg hr.live, Bool.not_true, Bool.false_eq_true, if_false]
      split
      · exact .returned rfl (hr.good.cons nofun) (.panicked rfl)
      · exact .returned rfl (.cons (.cons hr.good nofun) nofun) (.rejected x.trace rfl hr.noFail)

theorem phi_step (st : HStmt) (h : Phi s env a x) : Phi s env (absStep a st) (hStep env x st) := by
  cases h with
  | bad => exact .bad
  | returned hd hg hf =>
    rw [hStep_of_done hd]
    exact .returned hd hg hf
  | called hr =>
    cases st
    case iferrReject => exact Phi.checkedCall hr
    all_goals exact .bad
  | stable hr ha =>
    have hn := fun h1 h2 => Phi.neutral (hStep_neutral env x st hr.live h1 h2) hr ha
    have hs := Phi.send hr ha
    rcases ha with rfl | ⟨rfl, _⟩
    all_goals
      cases st
      case batchSign => exact .called hr
      case sendSign => exact hs
      case ret =>
        unfold hStep
        rw [if_neg hr.live]
        exact .returned rfl hr.good (.noFail hr.noFail)
      all_goals exact hn nofun nofun

theorem phi_run (prog : List HStmt) (h : Phi s env a x) :
    Phi s env (prog.foldl absStep a) (prog.foldl (hStep env) x) := by
  induction prog generalizing a x with
  | nil => exact h
  | cons st rest ih => exact ih (phi_step st h)

theorem phi_init (s : St) (env : HEnv) : Phi s env .noSig (hInit s) :=
  .stable ⟨nofun, .nil, ⟨rfl, rfl, rfl⟩, nofun⟩ (.inl rfl)

theorem safe_run (s : St) (env : HEnv) (prog : List HStmt) (hs : safeSign prog = true) :
    let h := handleSignParsed prog s env
    GoodTr s env h.trace ∧ FailShape h ∧ h.done = true := by
  have hphi := phi_run prog (phi_init s env)
  rw [show prog.foldl absStep .noSig = .stopped by simpa [safeSign] using hs] at hphi
  cases hphi with
  | stable _ ha => rcases ha with h | ⟨h, _⟩ <;> cases h
  | returned hd hg hf => exact ⟨hg, hf, hd⟩

end Pool.C05
