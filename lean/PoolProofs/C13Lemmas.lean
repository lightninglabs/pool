import PoolModel.C13
import PoolProofs.C06Lemmas
/-! Helper lemmas for C13: uint64 fill arithmetic, what `batchStorer` hands to the store, the relation `Less` and the
function `next` the sequence invariant is stated with. -/
namespace Pool.C13
open Pool.C06 Pool.Gen.C06

theorem sub64_lt (a b : Nat) : sub64 a b < two64 := Nat.mod_lt _ (by decide)

theorem sub64_sub64 (a b c : Nat) : sub64 (sub64 a b) c = sub64 a (b + c) := by
  unfold sub64 two64; omega

theorem sub64_add (a b : Nat) : (sub64 a b + b) % two64 = a % two64 := by
  unfold sub64 two64; omega

theorem sub64_exact {a b : Nat} (ha : a < two64) (h : b ≤ a) : sub64 a b = a - b := by
  unfold sub64 two64 at *; omega

theorem remaining_eq_sub64 {u : Nat} (us : List Nat) (hu : u < two64) : remaining u us = sub64 u us.sum := by
  induction us generalizing u with
  | nil => exact (sub64_exact hu (Nat.zero_le u)).symm
  | cons x xs ih =>
    show remaining (sub64 u x) xs = _
    rw [ih (sub64_lt u x), sub64_sub64, List.sum_cons]

theorem remaining_exact {u : Nat} {us : List Nat} (hu : u < two64) (h : us.sum ≤ u) :
    remaining u us = u - us.sum := by
  rw [remaining_eq_sub64 us hu, sub64_exact hu h]

def fillState (o : Ord) (rem : Nat) : Nat :=
  if rem = 0 ∨ rem < o.minMatch then orderStateExecuted else orderStatePartiallyFilled

def filled (o : Ord) (us : List Nat) : Ord :=
  { o with state := fillState o (remaining o.unfilled us), unfilled := remaining o.unfilled us }

theorem applyOMods_fillMods (o : Ord) (us : List Nat) : applyOMods (fillMods o us) o = filled o us := by
  unfold fillMods filled fillState
  by_cases h0 : remaining o.unfilled us = 0
  · simp [h0, applyOMods, OMod.apply]
  · by_cases h1 : remaining o.unfilled us < o.minMatch <;> simp [h0, h1, applyOMods, OMod.apply]

theorem prepOrders_ok {main : List (Key × Ord)} {m : List (Key × List Nat)} {l : List (Key × List OMod)}
    (h : prepOrders main m = .ok l) (hn : (keys m).Nodup) (n : Key) :
    (lookup n m = none → lastFor n l = none) ∧
    ∀ us, lookup n m = some us →
      ∃ o, lookup n main = some o ∧ lastFor n l = some (fillMods o us) ∧ (n, fillMods o us) ∈ l := by
  induction m generalizing l with
  | nil => cases h; exact ⟨fun _ => rfl, fun us hu => nomatch hu⟩
  | cons p r ih =>
    obtain ⟨k, us'⟩ := p
    rw [keys_cons, List.nodup_cons] at hn
    simp only [prepOrders] at h
    split at h
    · cases h
    · next o ho =>
      split at h
      · cases h
      · next l' hr =>
        cases h
        obtain ⟨ih1, ih2⟩ := ih hr hn.2
        simp only [lookup_cons, lastFor_cons]
        by_cases hk : n = k
        · -- `k` does not occur again in `r`
          subst hk
          simp only [if_true, ih1 (lookup_none_of_not_mem hn.1), pick_none]
          exact ⟨fun h => (nomatch h), fun us hu => by cases hu; exact ⟨o, ho, rfl, List.mem_cons_self⟩⟩
        · simp only [hk, if_false]
          refine ⟨fun h => by rw [ih1 h, pick_none], fun us hu => ?_⟩
          obtain ⟨o', h1, h2, h3⟩ := ih2 us hu
          exact ⟨o', h1, by rw [h2, pick_some], List.mem_cons_of_mem _ h3⟩

theorem stageArgs_ok {b : Batch} {db : DB} {a : StageArgs} (h : stageArgs b db = .ok a) :
    ∃ lo, prepOrders db.orders b.matched = .ok lo ∧ a.orders.zip a.orderMods = lo := by
  unfold stageArgs at h
  split at h
  · cases h
  · next lo hpo =>
    split at h <;> cases h
    exact ⟨lo, hpo, (List.zip_of_prod rfl rfl).symm⟩

/-- `o'` is `o` less `u` units (Go's subtraction), other terms unchanged -/
def Less (u : Nat) (o o' : Ord) : Prop := o'.unfilled = sub64 o.unfilled u ∧ o'.fixed = o.fixed

theorem Less.refl {o : Ord} (h : o.unfilled < two64) : Less 0 o o :=
  ⟨(sub64_exact h (Nat.zero_le _)).symm, rfl⟩

theorem Less.trans {u v : Nat} {o o' o'' : Ord} (h1 : Less u o o') (h2 : Less v o' o'') : Less (u + v) o o'' :=
  ⟨by rw [h2.1, h1.1, sub64_sub64], h2.2.trans h1.2⟩

theorem Less.unfilled_lt {u : Nat} {o o' : Ord} (h : Less u o o') : o'.unfilled < two64 := h.1 ▸ sub64_lt _ _

/-- order `n` as it will read once the staged batch (if any) is completed -/
def next (db : DB) (n : Key) : Option Ord :=
  pick ((staged db).bind fun st => lookup n st.orders) (lookup n db.orders)

theorem next_of_hasPending {db : DB} {st : Staged} (h : HasPending db st) (n : Key) :
    next db n = pick (lookup n st.orders) (lookup n db.orders) := by
  rw [next, staged_of_hasPending h]; rfl

end Pool.C13
