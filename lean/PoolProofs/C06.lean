import PoolProofs.C06LemmasSpec

/-!
# C06 — staged batch state stays invisible until completion and is applied atomically

Headline theorems.  Order *events* are an append-only audit log written at staging time by design: they are not
part of the visible state `vis` and have theorems of their own (`events_append_only`, `events_only_from_updates`).
-/
namespace Pool.C06
open Pool.Gen.C06

/-! A `facts_*` theorem stops checking when a constant regenerated from the Go source (`Generated/C06.lean`) differs
from the value the model assumes. -/

/-- the model's `OMod` has one constructor per `order.Modifier` constructor in the source, assigning that field -/
theorem facts_order_modifiers :
    orderModifierCtors = [("StateModifier", "State"), ("UnitsFulfilledModifier", "UnitsUnfulfilled")] := rfl

theorem facts_account_modifiers :
    acctModifierCtors = [("ExpiryModifier", "Expiry"), ("HeightHintModifier", "HeightHint"),
      ("IncrementBatchKey", "BatchKey"), ("LatestTxModifier", "LatestTx"), ("OutPointModifier", "OutPoint"),
      ("StateModifier", "State"), ("ValueModifier", "Value"), ("VersionModifier", "Version")] := rfl

/-- bucket routing of the helper calls: staging reads MAIN and writes the STAGING bucket, completion copies
STAGING to MAIN, direct updates read and write MAIN.  Values are identified by ROLE, not by the spelling of local
names: `$i` = i-th parameter of the function, `cb$i` = i-th parameter of the transaction closure, a local is
replaced by its defining expression (`#0` = first result). -/
theorem facts_bucket_routing :
    stageUpdateOrderArgs = [["(getBucket(cb$0,ordersBucketKey))#0",
      "(getNestedBucket((getBucket(cb$0,batchBucketKey))#0,pendingBatchOrdersBucketKey,true))#0"]] ∧
    stageUpdateAccountArgs = [["(getBucket(cb$0,accountBucketKey))#0",
      "(getNestedBucket((getBucket(cb$0,batchBucketKey))#0,pendingBatchAccountsBucketKey,true))#0"]] ∧
    applyUpdateAccountArgs = [["(getNestedBucket((getBucket($0,batchBucketKey))#0,pendingBatchAccountsBucketKey,false))#0",
      "(getBucket($0,accountBucketKey))#0"]] ∧
    applyCopyOrderArgs = [["(getNestedBucket((getBucket($0,batchBucketKey))#0,pendingBatchOrdersBucketKey,false))#0",
      "(getBucket($0,ordersBucketKey))#0"]] ∧
    directUpdateOrderArgs = [["(getBucket(cb$0,ordersBucketKey))#0", "(getBucket(cb$0,ordersBucketKey))#0"]] ∧
    directUpdateOrdersArgs = [["(getBucket(cb$0,ordersBucketKey))#0", "(getBucket(cb$0,ordersBucketKey))#0"]] ∧
    directUpdateAccountArgs = [["(getBucket(cb$0,accountBucketKey))#0", "(getBucket(cb$0,accountBucketKey))#0"]] :=
  ⟨rfl, rfl, rfl, rfl, rfl, rfl, rfl⟩

theorem facts_serializer_symmetric : serializeNoLatestTx = deserializeNoLatestTx := rfl

/-- `checkPendingBatch` can only act through these interfaces: nothing in them completes a batch -/
theorem facts_reconnect_cannot_complete :
    batchCleanerMethods = ["DeletePendingBatch", "RemovePendingBatchArtifacts"] ∧
    batchSourceMethods = ["PendingBatchSnapshot"] ∧
    "MarkBatchComplete" ∉ batchCleanerMethods ++ batchSourceMethods := ⟨rfl, rfl, by decide⟩

/-- `HandleAccountSpend` completes the staged batch exactly in the `nil` case of `Store.PendingBatch()` (which
is `DB.PendingBatchSnapshot`), and the real `BatchCleaner.DeletePendingBatch` is `DB.DeletePendingBatch` – the
shapes `spendPendingClause` and `reconnect` mirror -/
theorem facts_spend_clause :
    spendSwitch = [("ErrNoPendingBatch", "no"), ("nil", "MarkBatchComplete"), ("default", "no")] ∧
    accountStorePendingBatchCalls = ["s.DB.PendingBatchSnapshot"] ∧
    fundingDeletePendingBatchCalls = ["m.cfg.DB.DeletePendingBatch"] := ⟨rfl, rfl, rfl⟩

/-- **The order record moves as a whole.**  `updateOrder` and `copyOrder` decode the fixed-size order AND its TLV
stream and then rewrite ALL keys of the order sub-bucket into the destination; the event goes to the MAIN order
bucket.  This is what lets the model move `Ord` records as units. -/
-- `ORDER` = the order decoded by `DeserializeOrder` from the raw bytes (`cb$1` of the fetch callback), `$1` = the
-- destination bucket parameter, `cb$2` = the `extraOrderData` the callback received
theorem facts_order_keys :
    updateOrderStores = [["storeEventTX", "$0.Bucket(cb$0[:])", "NewUpdatedEvent(ORDER.Details().State,ORDER)"],
      ["storeOrderTX", "$1", "var:bytes.Buffer.Bytes() | nil"],
      ["storeOrderMinUnitsMatchTX", "$1", "ORDER.Details().MinUnitsMatch"], ["storeOrderTlvTX", "$1", "ORDER"],
      ["storeOrderMinNoderTierTX", "$1", "((ORDER.(*order.Bid)))#0.MinNodeTier"]] ∧
    copyOrderStores = [["storeOrderTX", "$1", "cb$1 | nil"], ["storeOrderTlvTX", "$1", "ORDER"],
      ["storeOrderMinNoderTierTX", "$1", "cb$2.minNodeTier"],
      ["storeOrderMinUnitsMatchTX", "$1", "cb$2.minUnitsMatch"]] ∧
    updateOrderDecodes = ["DeserializeOrder(bytes.NewReader(cb$1))", "deserializeOrderTlvData(ORDER)"] ∧
    copyOrderDecodes = ["DeserializeOrder(bytes.NewReader(cb$1))", "deserializeOrderTlvData(ORDER)"] ∧
    getOrderDecodes = ["DeserializeOrder(bytes.NewReader(cb$1))", "deserializeOrderTlvData(ORDER)"] :=
  ⟨rfl, rfl, rfl, rfl, rfl⟩

/-- **One exported mutator = one bbolt write transaction.**  Each of the modelled `DB` methods contains exactly one
`db.Update`, no separate read (`db.View`, `db.Account`, `db.GetOrder` …), and before that transaction it evaluates
nothing but the modifier-list length checks.  This is what `commit db (body db)` assumes: the body sees the STORED
records (not a struct the caller read earlier) and no other writer can slip in between its read and its write. -/
theorem facts_single_transaction :
    txShapes = [["DB.StorePendingBatch", "len,len,fmt.Errorf,len,len,fmt.Errorf", "updates=1 reads=0"],
      ["DB.MarkBatchComplete", "", "updates=1 reads=0"], ["DB.DeletePendingBatch", "", "updates=1 reads=0"],
      ["DB.UpdateAccount", "", "updates=1 reads=0"], ["DB.UpdateOrder", "", "updates=1 reads=0"],
      ["DB.UpdateOrders", "len,len,fmt.Errorf", "updates=1 reads=0"], ["DB.AddAccount", "", "updates=1 reads=0"],
      ["DB.SubmitOrder", "", "updates=1 reads=0"], ["DB.DeleteOrder", "", "updates=1 reads=0"]] := rfl

/-- `UpdateAccount` works on the STORED record, whatever struct the caller holds -/
theorem updateAccount_uses_stored_record (db₁ db₂ : DB) (k : Key) (m : List AMod)
    (h : lookup k db₁.accounts = lookup k db₂.accounts) :
    lookup k (step db₁ (.updateAccount k m)).1.accounts = lookup k (step db₂ (.updateAccount k m)).1.accounts ∧
    (step db₁ (.updateAccount k m)).2 = (step db₂ (.updateAccount k m)).2 := by
  simp only [step, updateAccountTx, updateAccountCore, h]
  cases lookup k db₂.accounts with
  | none => simp [commit, h]
  | some a =>
    simp only []
    cases storeA (applyAMods m a) with
    | error e => simp [commit, h]
    | ok a' => simp [commit, lookup_upsert]

theorem applyOMods_fixed (ms : List OMod) (o : Ord) : (applyOMods ms o).fixed = o.fixed := by
  induction ms generalizing o with
  | nil => rfl
  | cons m r ih =>
    have : applyOMods (m :: r) o = applyOMods r (m.apply o) := rfl
    rw [this, ih]; cases m <;> rfl

/-- **Staging never changes what the trader sees** – whether the call succeeds or fails. -/
theorem stage_preserves_visible (db : DB) (a : StageArgs) : vis (step db (.stage a)).1 = vis db := by
  rw [step_stage]
  cases stageOut db.accounts db.orders a <;> rfl

/-- **A failing call is the identity** on the whole database (visible state, staged batch, event log): every
operation that is one transaction, in particular a staging call that fails midway (unknown order/account at any
position, length mismatch, unsupported fee schedule, serializer panic).  `HandleAccountSpend` is several
(`accountSpend_fail`). -/
theorem fail_is_identity (db : DB) (op : Op) (e : Err) (hop : ∀ k w tx ht, op ≠ .accountSpend k w tx ht)
    (h : (step db op).2 = some e) : (step db op).1 = db := by
  cases op with
  | accountSpend k w tx ht => exact absurd rfl (hop k w tx ht)
  | reopen => rfl
  | reconnect rpc rm => cases h
  | _ => exact commit_fst_of_err h

/-- the spend of a confirmed batch (multi-sig witness, account output recreated) is exactly the pending-batch
clause: nothing else is written -/
theorem accountSpend_recreate (db : DB) (k : Key) (tx ht : Nat) (a : Acct) (hk : lookup k db.accounts = some a) :
    step db (.accountSpend k .multiSigRecreate tx ht) = step db .spend := by
  rw [step_accountSpend, hk]

/-- `HandleAccountSpend` is NOT one transaction (pending-batch clause, then `UpdateAccount`): when it fails, the
database is either untouched or exactly in the state after the completed pending-batch clause -/
theorem accountSpend_fail (db : DB) (k : Key) (w : Witness) (tx ht : Nat) (e : Err)
    (h : (step db (.accountSpend k w tx ht)).2 = some e) :
    (step db (.accountSpend k w tx ht)).1 = db ∨ (step db (.accountSpend k w tx ht)).1 = (step db .spend).1 := by
  revert h
  rw [step_accountSpend]
  cases lookup k db.accounts with
  | none => exact fun _ => .inl rfl
  | some a =>
    cases w with
    | unknown => exact fun _ => .inl rfl
    | expiry => exact fun h => .inl (commit_fst_of_err h)
    | multiSigRecreate => exact fun _ => .inr rfl
    | multiSig =>
      simp only []
      split
      · exact fun h => .inr (commit_fst_of_err h)
      · exact fun _ => .inr rfl

theorem stage_fail_is_identity (db : DB) (a : StageArgs) (e : Err) (h : (step db (.stage a)).2 = some e) :
    (step db (.stage a)).1 = db := commit_fst_of_err h

theorem stage_ok_state (db : DB) (a : StageArgs) (h : (step db (.stage a)).2 = none) :
    ∃ o, stageOut db.accounts db.orders a = .ok o ∧ (step db (.stage a)).1 = afterStage db a o := by
  rw [step_stage] at h ⊢
  cases ho : stageOut db.accounts db.orders a with
  | error e => rw [ho] at h; cases h
  | ok o => exact ⟨o, rfl, rfl⟩

/-- **Re-staging leaves no residue**: result and staging area are those of staging `a₂` alone; when it fails, the
batch staged by `a₁` is intact. -/
theorem restage_no_residue (db : DB) (a₁ a₂ : StageArgs) :
    let db₁ := (step db (.stage a₁)).1
    (step db₁ (.stage a₂)).2 = (step db (.stage a₂)).2 ∧
    ((step db (.stage a₂)).2 = none → staged (step db₁ (.stage a₂)).1 = staged (step db (.stage a₂)).1) ∧
    ((step db (.stage a₂)).2 ≠ none → (step db₁ (.stage a₂)).1 = db₁) := by
  intro db₁
  -- the second call computes from the visible accounts and orders, which the first has left alone
  have hv : vis db₁ = vis db := stage_preserves_visible db a₁
  rw [step_stage db₁, step_stage db, show db₁.accounts = db.accounts from congrArg Visible.accounts hv,
    show db₁.orders = db.orders from congrArg Visible.orders hv]
  cases stageOut db.accounts db.orders a₂ with
  | error e => exact ⟨rfl, fun h => (by cases h), fun _ => rfl⟩
  | ok o => exact ⟨rfl, fun _ => rfl, fun h => absurd rfl h⟩

/-- **Discarding restores** the database as it was before staging – nothing staged, visible state untouched;
the only trace of the abandoned version is in the append-only event log (and in the existence of the event-ref
sub-buckets that log lives in, `noRefs`). -/
theorem discard_restores (db : DB) (a : StageArgs) (h : NoPending db) :
    let db' := (step (step db (.stage a)).1 .discard).1
    { db' with events := db.events, noRefs := db.noRefs } = db ∧ ∃ es, db'.events = db.events ++ es := by
  -- staging wrote the four staging fields, `events` and `noRefs`; with the latter two put back, discarding after
  -- it is discarding in `db`, where nothing was staged
  have hd : (step db .discard).1 = db := congrArg Prod.fst (step_discard_noPending h)
  rw [step_stage]
  cases stageOut db.accounts db.orders a with
  | error e => exact ⟨Eq.trans rfl hd, [], (List.append_nil _).symm⟩
  | ok o => exact ⟨Eq.trans rfl hd, o.es, rfl⟩

theorem discard_any (db : DB) :
    vis (step db .discard).1 = vis db ∧ staged (step db .discard).1 = none ∧
    NoPending (step db .discard).1 ∧ (step db .discard).1.events = db.events ∧ (step db .discard).2 = none :=
  ⟨rfl, rfl, ⟨rfl, rfl, rfl, rfl⟩, rfl, rfl⟩

/-- **Completion applies exactly the staged version, in one step**: every account/order reads as its staged record
if it was staged and as before otherwise, none appears or disappears beyond the staged keys; the staged snapshot is
what `GetLocalBatchSnapshot(st.id)` returns; snapshots readable under other ids stay so; the event log is untouched. -/
theorem complete_applies_exactly_staged (db : DB) (hc : Coh db) (st : Staged) (hs : staged db = some st) :
    let db' := (step db .complete).1
    (step db .complete).2 = none ∧
    (∀ k, lookup k db'.accounts = pick (lookup k st.accts) (lookup k db.accounts)) ∧
    (∀ n, lookup n db'.orders = pick (lookup n st.orders) (lookup n db.orders)) ∧
    (∀ k, k ∈ keys db'.accounts ↔ k ∈ keys st.accts ∨ k ∈ keys db.accounts) ∧
    (∀ n, n ∈ keys db'.orders ↔ n ∈ keys st.orders ∨ n ∈ keys db.orders) ∧
    db'.snaps = db.snaps ++ [st.snap] ∧ getLocalBatchSnapshot db' st.id = .ok st.snap ∧ st.snap.id = st.id ∧
    (∀ i s, i ≠ st.id → getLocalBatchSnapshot db i = .ok s → getLocalBatchSnapshot db' i = .ok s) ∧
    NoPending db' ∧ db'.events = db.events := by
  have hok := hc.stagedOK hs
  rw [step_complete_pending (hasPending_of_staged hs) hok]
  refine ⟨rfl, lookup_over hok.acctN, lookup_over hok.ordN, fun k => keys_over_mem, fun n => keys_over_mem, rfl, ?_,
    hok.snapId, ?_, ⟨rfl, rfl, rfl, rfl⟩, rfl⟩
  · -- the filed snapshot is the last of the history, indexed under its id, and all its orders are in the main
    -- bucket now
    refine getLocalBatchSnapshot_ok_iff.2 ⟨db.snaps.length + 1, ?_, List.getElem?_concat_length, ?_⟩
    · exact (lookup_upsert _ _ _ _).trans (if_pos rfl)
    · exact snapReadable_iff.2 fun n hn => keys_over_mem.2 (Or.inl (hok.snapOrders ▸ hn))
  · -- an older snapshot keeps its index entry and its place, and completion only adds orders
    intro i s hi hg
    obtain ⟨seq, h1, h2, h3⟩ := getLocalBatchSnapshot_ok_iff.1 hg
    have hlt : seq - 1 < db.snaps.length := (List.getElem?_eq_some_iff.1 h2).1
    refine getLocalBatchSnapshot_ok_iff.2 ⟨seq, ?_, ?_, ?_⟩
    · exact (lookup_upsert _ _ _ _).trans ((if_neg hi).trans h1)
    · exact (List.getElem?_append_left hlt).trans h2
    · exact snapReadable_iff.2 fun n hn => keys_over_mem.2 (Or.inr (snapReadable_iff.1 h3 n hn))

theorem complete_without_pending_errors (db : DB) (hc : Coh db) (hs : staged db = none) :
    step db .complete = (db, some .noPending) :=
  step_complete_noPending (hc.noPending hs)

/-- the snapshot kept with a staged batch records exactly the two staging buckets and the call's batch id,
transaction and matches (so what completion files IS what completion applied) -/
theorem staged_snapshot_consistent (db : DB) (a : StageArgs) (h : (step db (.stage a)).2 = none) :
    ∃ st, staged (step db (.stage a)).1 = some st ∧ st.id = a.batchId ∧ st.snap.id = a.batchId ∧
      st.snap.tx = a.batchTx ∧ st.snap.matched = a.matched ∧ st.snap.accts = st.accts ∧ st.snap.orders = st.orders := by
  obtain ⟨o, ho, hd⟩ := stage_ok_state db a h
  have hs := stageOut_stagedOK ho
  obtain ⟨uo, ua, -, -, he⟩ := stageOut_ok ho
  exact ⟨⟨a.batchId, o.pa, o.po, o.snap⟩, by rw [hd]; rfl, rfl, hs.snapId, congrArg Snap.tx he, congrArg Snap.matched he,
    hs.snapAccts, hs.snapOrders⟩

/-- **Exactly the listed accounts and orders are staged, each as (visible record + the call's modifiers)**: the
modifiers of its LAST entry applied to the currently VISIBLE record, never to a previously staged one; accounts go
through the account serializer `normA`. -/
theorem stage_stages_exactly_listed (db : DB) (a : StageArgs) (h : (step db (.stage a)).2 = none) :
    ∃ st, staged (step db (.stage a)).1 = some st ∧
      (∀ n, lookup n st.orders =
        stagedVal applyOMods (lastFor n (a.orders.zip a.orderMods)) (lookup n db.orders) none) ∧
      (∀ k, lookup k st.accts =
        stagedVal (fun m x => normA (applyAMods m x)) (lastFor k (a.accounts.zip a.acctMods))
          (lookup k db.accounts) none) := by
  obtain ⟨o, ho, hd⟩ := stage_ok_state db a h
  obtain ⟨uo, ua, hlo, hla, -⟩ := stageOut_ok ho
  exact ⟨⟨a.batchId, o.pa, o.po, o.snap⟩, by rw [hd]; rfl, stageOrdersLoop_lookup hlo, stageAcctsLoop_lookup hla⟩

/-- `HandleAccountSpend`'s pending-batch clause: a no-op when nothing is staged; exactly `complete` when a batch
is staged and loadable; `ErrNoOrder` with nothing changed when one of the staged orders has been deleted from the
main bucket (`PendingBatchSnapshot` cannot be completed then) -/
theorem spend_completes_iff_pending (db : DB) (hc : Coh db) :
    (staged db = none → step db .spend = (db, none)) ∧
    (∀ st, staged db = some st → readable (vis db) st = true → step db .spend = step db .complete) ∧
    (∀ st, staged db = some st → readable (vis db) st = false → step db .spend = (db, some .noOrder)) :=
  ⟨fun h => step_spend_noPending (hc.noPending h),
   fun st h hr => by rw [step_spend_pending (hasPending_of_staged h), if_pos hr],
   fun st h hr => by rw [step_spend_pending (hasPending_of_staged h), hr]; rfl⟩

theorem events_only_from_updates (db : DB) (op : Op)
    (h : op = .complete ∨ op = .discard ∨ op = .reopen ∨ op = .spend ∨ ∃ r m, op = .reconnect r m) :
    (step db op).1.events = db.events := by
  rcases h with h | h | h | h | ⟨r, m, h⟩ <;> subst h
  · simp only [step]
    cases hm : markBatchCompleteTx db with
    | error e => rfl
    | ok d => exact markBatchComplete_events hm
  · rfl
  · rfl
  · simp only [step]
    cases hm : spendPendingClause db with
    | error e => rfl
    | ok d => exact spendPendingClause_events hm
  · simp only [step]
    rw [reconnect_fst_of_calls]
    split <;> rfl

/-- `DeleteOrder` is excluded: it removes the deleted order's own event references with its bucket -/
theorem events_append_only (db : DB) (op : Op) (hop : ∀ n, op ≠ .deleteOrder n) :
    ∃ es, (step db op).1.events = db.events ++ es := by
  have same : ∀ {d : DB}, d.events = db.events → ∃ es, d.events = db.events ++ es :=
    fun h => ⟨[], by rw [h, List.append_nil]⟩
  have updTx : ∀ ns ms, ∃ es, (commit db (updateOrdersTx ns ms db)).1.events = db.events ++ es := fun ns ms => by
    rw [updateOrdersTx_eq]
    cases updateOrdersLoop (ns.zip ms) db.orders [] with
    | error e => exact same rfl
    | ok x => exact ⟨x.2, rfl⟩
  cases op with
  | deleteOrder n => exact absurd rfl (hop n)
  | complete | discard | reopen | spend | reconnect _ _ => exact same (events_only_from_updates db _ (by simp))
  | updateAccount k m => exact same (updateAccount_events db k m)
  | addAccount k a => simp only [step, addAccountTx]; cases storeA a <;> exact same rfl
  | submitOrder n o =>
    simp only [step, submitOrderTx]
    cases lookup n db.orders with
    | some _ => exact same rfl
    | none => exact ⟨[(n, .created)], rfl⟩
  | stage a =>
    rw [step_stage]
    cases stageOut db.accounts db.orders a with
    | error e => exact same rfl
    | ok o => exact ⟨o.es, rfl⟩
  | updateOrder n m => exact updTx [n] [m]
  | updateOrders ns ms =>
    simp only [step, updateOrders]
    split
    · exact same rfl
    · exact updTx ns ms
  | accountSpend k w tx ht =>
    -- every branch is the identity, the spend clause, the closing update, or the one after the other
    have hs : (step db .spend).1.events = db.events := events_only_from_updates db _ (by simp)
    rw [step_accountSpend]
    cases lookup k db.accounts with
    | none => exact same rfl
    | some a =>
      cases w with
      | unknown => exact same rfl
      | expiry => exact same (updateAccount_events db k _)
      | multiSigRecreate => exact same hs
      | multiSig =>
        simp only []
        split
        · exact same ((updateAccount_events _ k _).trans hs)
        · exact same hs

theorem events_prefix_histories (db : DB) (ops : List Op) (hops : ∀ n, Op.deleteOrder n ∉ ops) :
    ∃ es, (run db ops).events = db.events ++ es := by
  induction ops generalizing db with
  | nil => exact ⟨[], by simp [run]⟩
  | cons op ops ih =>
    obtain ⟨e1, h1⟩ := events_append_only db op (fun n h => hops n (h ▸ List.mem_cons_self))
    obtain ⟨e2, h2⟩ := ih (step db op).1 (fun n h => hops n (List.mem_cons_of_mem _ h))
    exact ⟨e1 ++ e2, by simp only [run]; rw [h2, h1, List.append_assoc]⟩

/-- **Every history refines the specification**: after any list of operations, failing or not, from the freshly
created database, (visible state, staged batch) is the state of `Spec` run on the same operations. -/
theorem C06_histories (ops : List Op) :
    abs (run DB.init ops) = (abs DB.init).run ops ∧ Coh (run DB.init ops) :=
  run_refines DB.init coh_init ops

/-- operations that neither complete nor update directly -/
def Op.stagingOnly : Op → Bool
  | .stage _ | .discard | .reopen | .reconnect _ _ => true
  | _ => false

theorem spec_stagingOnly_visible (s : Spec) (ops : List Op) (h : ∀ op ∈ ops, op.stagingOnly = true) :
    (s.run ops).vis = s.vis := by
  induction ops generalizing s with
  | nil => rfl
  | cons op ops ih =>
    have h1 : (s.step op).vis = s.vis := by
      cases op with
      | stage a => simp only [Spec.step]; split <;> rfl
      | discard => rfl
      | reopen => rfl
      | reconnect rpc rm =>
        simp only [Spec.step]
        split
        · split <;> rfl
        · rfl
      | _ => cases h _ List.mem_cons_self
    simp only [Spec.run]
    rw [ih _ (fun o ho => h o (List.mem_cons_of_mem _ ho)), h1]

/-- the reconnect check either keeps everything or does exactly what `discard` does: a staged batch is **never
applied** by it -/
theorem C06_reconnect_never_applies (db : DB) (rpc : Rpc) (rm : Bool) :
    ((step db (.reconnect rpc rm)).1 = db ∨ (step db (.reconnect rpc rm)).1 = (step db .discard).1) ∧
    vis (step db (.reconnect rpc rm)).1 = vis db := by
  simp only [step]
  rw [reconnect_fst_of_calls]
  split
  · exact ⟨Or.inr rfl, (discard_any db).1⟩
  · exact ⟨Or.inl rfl, rfl⟩

theorem stagingOnly_visible (db : DB) (ops : List Op) (h : ∀ op ∈ ops, op.stagingOnly = true) :
    vis (run db ops) = vis db := by
  induction ops generalizing db with
  | nil => rfl
  | cons op ops ih =>
    have h1 : vis (step db op).1 = vis db := by
      cases op with
      | stage a => exact stage_preserves_visible db a
      | discard => rfl
      | reopen => rfl
      | reconnect rpc rm => exact (C06_reconnect_never_applies db rpc rm).2
      | _ => cases h _ List.mem_cons_self
    rw [run, ih _ (fun o ho => h o (List.mem_cons_of_mem _ ho)), h1]

/-- **Between staging and completion the visible state is unchanged**: after ANY history `pre`, any sequence of
stage / re-stage / discard / reopen / reconnect operations – each failing or not – leaves `Account(s)`,
`GetOrder(s)` and the snapshot history exactly as they were. -/
theorem C06_visible_unchanged_until_complete (pre ops : List Op) (h : ∀ op ∈ ops, op.stagingOnly = true) :
    vis (run (run DB.init pre) ops) = vis (run DB.init pre) :=
  stagingOnly_visible _ ops h

theorem complete_after_stage (d0 : DB) (a : StageArgs) (keep : List Op) (hok : (step d0 (.stage a)).2 = none)
    (hkeep : ∀ op ∈ keep, (step (step d0 (.stage a)).1 op).1 = (step d0 (.stage a)).1) :
    ∃ o, stageOut d0.accounts d0.orders a = .ok o ∧
      vis (step (run (step d0 (.stage a)).1 keep) .complete).1 =
        applyStaged ⟨a.batchId, o.pa, o.po, o.snap⟩ (vis d0) ∧
      staged (step (run (step d0 (.stage a)).1 keep) .complete).1 = none := by
  obtain ⟨o, ho, hd⟩ := stage_ok_state d0 a hok
  rw [run_eq_of_fixed hkeep, hd, step_complete_pending (hasPending_afterStage d0 a o) (stageOut_stagedOK ho)]
  exact ⟨o, ho, rfl, rfl⟩

/-- **Completion applies the most recently staged version**: if the last successful staging call before `complete`
was `a`, completion applies exactly `stageOut` of the state visible at that call.  `keep` (the operations in
between) may hold reopen and operations that change NO coherent database (a check answered "not finalised", a
length-mismatch staging call); `complete_after_stage` needs them idle only at the database at hand. -/
theorem C06_complete_applies_last_staged (pre : List Op) (a : StageArgs) (keep : List Op)
    (hok : (step (run DB.init pre) (.stage a)).2 = none)
    (hkeep : ∀ d, Coh d → ∀ op ∈ keep, (step d op).1 = d ∨ op = .reopen) :
    let d0 := run DB.init pre
    let d1 := run (step d0 (.stage a)).1 keep
    ∃ o, stageOut d0.accounts d0.orders a = .ok o ∧
      vis (step d1 .complete).1 = applyStaged ⟨a.batchId, o.pa, o.po, o.snap⟩ (vis d0) ∧
      staged (step d1 .complete).1 = none := by
  intro d0 d1
  have hc1 : Coh (step d0 (.stage a)).1 := (step_refines d0 (C06_histories pre).2 (.stage a)).2
  exact complete_after_stage d0 a keep hok fun op hop => (hkeep _ hc1 op hop).elim id (· ▸ rfl)

/-- **Reconnect decision.**  For every outcome of loading the staged batch, of the auctioneer query and of the
cleaner calls: `DeletePendingBatch` is requested iff a batch is staged AND the auctioneer returned a well-formed
finalised transaction with ANOTHER txid AND removing the funding artifacts succeeded; the only calls ever made are
`RemovePendingBatchArtifacts` (of the staged transaction) and `DeletePendingBatch`; a nil error is returned exactly
when the outcome is keep-without-error or a successful discard. -/
theorem C06_reconnect_decision (src : Except Err Snap) (rpc : Rpc) (env : CleanerEnv) :
    let r := checkPendingBatch src rpc env
    (Call.deletePendingBatch ∈ r.1 ↔
      ∃ snap t, src = .ok snap ∧ rpc = .finalized t ∧ snap.tx ≠ t ∧ env.removeOk = true) ∧
    (∀ c ∈ r.1, c = .deletePendingBatch ∨ ∃ snap, src = .ok snap ∧ c = .removeArtifacts snap.tx) ∧
    (r.2 = none ↔
      src = .error .noPending ∨
      ∃ snap, src = .ok snap ∧ (rpc = .rpcErr true ∨ rpc = .finalized snap.tx ∨
        (∃ t, rpc = .finalized t ∧ snap.tx ≠ t ∧ env.removeOk = true ∧ env.deleteOk = true))) := by
  intro r
  cases src with
  | error e =>
    have : checkPendingBatch (.error e) rpc env = ([], if e = .noPending then none else some .load) := by
      cases e <;> rfl
    simp [r, this]
  | ok snap =>
    cases rpc with
    | rpcErr b => cases b <;> simp [r, checkPendingBatch]
    | malformed => simp [r, checkPendingBatch]
    | finalized t =>
      obtain ⟨rm, dl⟩ := env
      by_cases ht : snap.tx = t
      · subst ht; simp [r, checkPendingBatch]
      · have ht' : ¬ t = snap.tx := fun h => ht h.symm
        cases rm <;> cases dl <;> simp [r, checkPendingBatch, ht, ht']

/-- **Every function that (re-)creates the stream to the auctioneer checks the pending batch before it
(re-)subscribes accounts** (`auctioneer/client.go`): whichever functions call `connectServerStream`
(`connectAndAuthenticate` for the first connect and `reconnect`, the body of `HandleServerShutdown`; the statement
does not depend on their names), each calls `checkPendingBatch` before it subscribes accounts, and there is at
least one such function. -/
theorem facts_stream_creators_check :
    streamCreators ≠ [] ∧ ∀ p ∈ streamCreators, p.2 = "check-before-subscribe" := by decide

theorem reconnect_notFinalised_keeps (db : DB) (rm : Bool) : (reconnect (.rpcErr true) rm db).1 = db := by
  rw [reconnect_fst]; cases db.pendingSnap <;> rfl

/-- **All reconnect paths apply the same decision**: first connect, stream error and shutdown notice have exactly
the database effect of one `checkPendingBatch` with the auctioneer's final answer – so `C06_reconnect_keep_iff` /
`C06_reconnect_never_applies` hold for each of them. -/
theorem C06_reconnect_all_paths (p : Path) (rpc : Rpc) (rm : Bool) (db : DB) :
    (reconnectVia p rpc rm db).1 = (step db (.reconnect rpc rm)).1 ∧
    (reconnectVia p rpc rm db).2.getLast? = some (reconnect rpc rm db).2 := by
  cases p <;> simp [reconnectVia, step, reconnect_notFinalised_keeps]

set_option linter.unusedVariables false in -- `hc` is not needed
/-- kept ⇔ not loadable ∨ not finalised ∨ same txid (∨ cleanup impossible); discarded otherwise -/
theorem C06_reconnect_keep_iff (db : DB) (hc : Coh db) (st : Staged) (hs : staged db = some st)
    (rpc : Rpc) (rm : Bool) :
    (staged (step db (.reconnect rpc rm)).1 = some st ↔
      ¬ (readable (vis db) st = true ∧ ∃ t, rpc = .finalized t ∧ st.snap.tx ≠ t ∧ rm = true)) ∧
    (staged (step db (.reconnect rpc rm)).1 = none ↔
      (readable (vis db) st = true ∧ ∃ t, rpc = .finalized t ∧ st.snap.tx ≠ t ∧ rm = true)) := by
  have hd : staged (step db .discard).1 = none := (discard_any db).2.1
  simp only [step]
  rw [reconnect_pending (hasPending_of_staged hs), ← discards_iff, ← Bool.and_eq_true]
  cases readable (vis db) st && discards st rpc rm with
  | true => simp [hd]
  | false => simp [hs]

def exStage : StageArgs :=
  { batchId := 1, batchTx := 3, feeOk := true, orders := [2], orderMods := [[.state 2, .unitsUnfulfilled 4]],
    accounts := [1], acctMods := [[.state 8, .incBatchKey, .value 900]], matched := [(2, [6])] }

def exAcct : Acct := { value := 1000, expiry := 144, state := 3, bkey := 0, opTx := 7, opIdx := 0, hint := 1,
                       tx := 2, version := 0 }

def exPre : List Op :=
  [.addAccount 1 exAcct, .submitOrder 2 { state := 0, unfilled := 10, units := 10, minMatch := 2, isBid := true, tier := 2, extras := 5 }, .submitOrder 3 { state := 0, unfilled := 5, units := 5, minMatch := 1 }]

def exDb : DB := run DB.init exPre

example : (step exDb (.stage exStage)).2 = none := by decide
example : NoPending exDb := ⟨by decide, by decide, by decide, by decide⟩
example : staged (step exDb (.stage exStage)).1 ≠ none := by decide
example : Coh (step exDb (.stage exStage)).1 :=
  (step_refines exDb (C06_histories exPre).2 (.stage exStage)).2
/-- completion really changes the visible state (account 1, order 2 – a bid with non-default minimum match size,
node tier and TLV extras, all preserved) and leaves order 3 -/
example : let d := (step (step exDb (.stage exStage)).1 .complete).1
    lookup 2 d.orders = some { state := 2, unfilled := 4, units := 10, minMatch := 2, isBid := true, tier := 2, extras := 5 } ∧ lookup 3 d.orders = some { state := 0, unfilled := 5, units := 5, minMatch := 1 } ∧
    (lookup 1 d.accounts).map (·.state) = some 8 ∧ lookup 2 exDb.orders = some { state := 0, unfilled := 10, units := 10, minMatch := 2, isBid := true, tier := 2, extras := 5 } ∧
    d.snaps.length = 1 := by decide
example : (step exDb (.stage { exStage with orders := [2, 9], orderMods := [[], []] })).2 = some .noOrder := by
  decide
example : (step exDb .complete).2 = some .noPending := by decide
/-- `DeleteOrder` of a staged order: the staged batch is untouched, `PendingBatchSnapshot` and the spend clause
fail with `ErrNoOrder`, and completion re-creates the order from its staged version (without event refs) -/
example : let d := (step (step exDb (.stage exStage)).1 (.deleteOrder 2)).1
    lookup 2 d.orders = none ∧ staged d = staged (step exDb (.stage exStage)).1 ∧
    (match pendingBatchSnapshot d with | .error e => some e | .ok _ => none) = some .noOrder ∧
    (step d .spend).2 = some .noOrder ∧
    lookup 2 (step d .complete).1.orders =
      some { state := 2, unfilled := 4, units := 10, minMatch := 2, isBid := true, tier := 2, extras := 5 } ∧
    (match getOrderEvents (step d .complete).1 2 with | .error e => some e | .ok _ => none) = some .other := by
  decide

/-- hypotheses of `C06_complete_applies_last_staged` are satisfiable with a non-empty `keep` -/
example : (step (run DB.init exPre) (.stage exStage)).2 = none ∧
    ∀ d, Coh d → ∀ op ∈ [Op.reopen], (step d op).1 = d ∨ op = .reopen := by
  refine ⟨by decide, ?_⟩
  intro d _ op hop; right; simpa using hop
example : (checkPendingBatch (.ok ⟨1, 3, [], [], []⟩) (.finalized 4) ⟨true, true⟩).1 =
    [.removeArtifacts 3, .deletePendingBatch] := by decide
example : (checkPendingBatch (.ok ⟨1, 3, [], [], []⟩) (.finalized 3) ⟨true, true⟩) = ([], none) := by decide
example : staged (step (step exDb (.stage exStage)).1 (.reconnect (.finalized 4) true)).1 = none := by decide
example : staged (step (step exDb (.stage exStage)).1 (.reconnect (.rpcErr true) true)).1 ≠ none := by decide

end Pool.C06
