import PoolProofs.C10Lemmas
/-! BigSize and TLV-stream round trips (lnd tlv), and streams given as a table of rows by type number
(`TlvRows`, `tlvRows_decode`): the by-name record lists of the model are evaluated into such a table once, per stream. -/
namespace Pool.C10
open Pool.Gen

theorem encBigSize_ne_nil (v : Nat) : encBigSize v ≠ [] := by
  unfold encBigSize
  repeat' split
  all_goals exact List.cons_ne_nil _ _

theorem readBigSize_rt {v : Nat} (h : v < 2 ^ 64) : Reads readBigSize (encBigSize v) v := by
  unfold encBigSize readBigSize
  by_cases h1 : v < 0xfd
  · rw [if_pos h1]
    refine (readBE_byte _).bind_nil ?_
    rw [UInt8.toNat_ofNat', Nat.mod_eq_of_lt (by omega), if_pos h1]
    exact .pure_nil v
  · rw [if_neg h1]
    by_cases h2 : v ≤ 0xffff
    · rw [if_pos h2]
      exact .marked (readBE_byte _) rfl (readBE_rt (n := 2) (by omega)) (if_neg h1)
    · rw [if_neg h2]
      by_cases h3 : v ≤ 0xffffffff
      · rw [if_pos h3]
        exact .marked (readBE_byte _) rfl (readBE_rt (n := 4) (by omega)) (if_neg h2)
      · rw [if_neg h3]
        exact .marked (readBE_byte _) rfl (readBE_rt (n := 8) h) (if_neg h3)

theorem payload_length_lt (r : TlvRec) (h : r.WF) : r.payload.length < 2 ^ 64 := by
  obtain ⟨_, h⟩ := h
  unfold TlvRec.payload
  cases hk : r.kind <;> cases hv : r.val <;> simp [hk, hv] at h ⊢ <;> first | omega | simp [encU8, encU64]

theorem readRecVal_rt {r : TlvRec} (h : r.WF) : Reads (readRecVal r.kind r.payload.length) r.payload r.val := by
  obtain ⟨t, k, v⟩ := r
  obtain ⟨-, h⟩ := h
  cases k <;> cases v <;> try exact False.elim h
  · simp only [readRecVal, TlvRec.payload, encU8, beEnc_length, reduceIte]
    exact (readU8_rt h).map _
  · simp only [readRecVal, TlvRec.payload, encU64, beEnc_length, reduceIte]
    exact (readU64_rt h).map _
  · dsimp only [readRecVal, TlvRec.payload]
    rw [if_neg (show ¬ _ > maxAlloc from Nat.not_lt.mpr (Nat.le_of_lt h))]
    exact (Reads.take rfl).map _

def IncFrom : Nat → List TlvRec → Prop
  | _, [] => True
  | min, r :: rs => min ≤ r.typ ∧ IncFrom (r.typ + 1) rs

def mapOf (rs : List TlvRec) : List (Nat × Option TlvVal) := rs.map fun r => (r.typ, some r.val)

/-- the TLV stream round trip; `decodeStream` is the instance `fuel = length + 1`, `min = 0` -/
theorem decodeStreamAux_enc (known : List (Nat × RecKind)) (rs : List TlvRec) :
    ∀ (fuel min : Nat), (encStream rs).length < fuel → IncFrom min rs → (∀ r ∈ rs, r.WF) →
      (∀ r ∈ rs, known.lookup r.typ = some r.kind) →
      decodeStreamAux known fuel min (encStream rs) = .ok (mapOf rs) [] := by
  induction rs with
  | nil =>
    intro fuel min hf _ _ _
    cases fuel with
    | zero => omega
    | succ f => simp [decodeStreamAux, encStream, mapOf]
  | cons r rs ih =>
    intro fuel min hf hinc hwf hk
    cases fuel with
    | zero => omega
    | succ f =>
      obtain ⟨hmin, hinc'⟩ := hinc
      have hr := hwf r (List.mem_cons_self)
      have hne := encBigSize_ne_nil r.typ
      have e : encStream (r :: rs) =
          encBigSize r.typ ++ (encBigSize r.payload.length ++ (r.payload ++ encStream rs)) := by
        simp [encStream, encRecord, List.append_assoc]
      rw [e] at hf ⊢
      have ih' := ih f (r.typ + 1)
        (by have := List.length_pos_iff.mpr hne; simp only [List.length_append] at hf; omega) hinc'
        (fun x hx => hwf x (List.mem_cons_of_mem _ hx)) (fun x hx => hk x (List.mem_cons_of_mem _ hx))
      unfold decodeStreamAux
      rw [List.isEmpty_eq_false_iff.mpr (List.append_ne_nil_of_left_ne_nil hne _), if_neg Bool.false_ne_true]
      simp only [bind_apply, readBigSize_rt hr.1 _, if_neg (Nat.not_lt.mpr hmin),
        readBigSize_rt (payload_length_lt r hr) _, hk r (List.mem_cons_self),
        readRecVal_rt hr _, ih', mapOf, List.map_cons]

def recsOf (L : List (String × String)) (vars : String → Option (RecKind × TlvVal)) : List TlvRec :=
  L.filterMap fun (t, _) => (vars t).map fun (k, x) => ⟨tlvType t, k, x⟩

theorem tlvRecsOf_eq (fn : String) (vars) :
    tlvRecsOf fn vars = recsOf ((Store.tlvRecords.lookup fn).getD []) vars := rfl

/-- a stream by rows: type number and the record written under it, if any -/
abbrev TlvRows := List (Nat × Option (RecKind × TlvVal))

def TlvRows.recs (rows : TlvRows) : List TlvRec := rows.filterMap fun (t, v) => v.map fun (k, x) => ⟨t, k, x⟩

theorem TlvRows.incFrom (rows : TlvRows) (min : Nat) (hmin : ∀ t ∈ rows.map (·.1), min ≤ t)
    (hinc : List.Pairwise (· < ·) (rows.map (·.1))) : IncFrom min rows.recs := by
  induction rows generalizing min with
  | nil => trivial
  | cons r rows ih =>
    rw [List.map_cons, List.pairwise_cons] at hinc
    have htail := ih min (fun t ht => hmin t (List.mem_cons_of_mem _ ht)) hinc.2
    obtain ⟨t, _ | ⟨k, x⟩⟩ := r
    · exact htail
    · exact ⟨hmin t List.mem_cons_self, ih (t + 1) hinc.1 hinc.2⟩

/-- keys increasing (that they are distinct is what is used): an entry is found under its key after entries were dropped -/
theorem lookup_filterMap_mem {β γ : Type} (g : β → Option γ) (L : List (Nat × β))
    (hinc : List.Pairwise (· < ·) (L.map (·.1))) (q : Nat × β) (hq : q ∈ L) :
    (L.filterMap fun p => (g p.2).map (p.1, ·)).lookup q.1 = g q.2 := by
  induction L with
  | nil => cases hq
  | cons p L ih =>
    rw [List.map_cons, List.pairwise_cons] at hinc
    have hlt : ∀ r ∈ L, p.1 < r.1 := fun r hr => hinc.1 _ (List.mem_map_of_mem hr)
    rw [List.filterMap_cons]
    rcases List.mem_cons.mp hq with rfl | hq
    · cases g q.2 with
      | some v => exact List.lookup_cons_self
      | none =>
        -- dropped, and nothing further down has its key
        show List.lookup q.1 (L.filterMap _) = none
        rw [List.lookup_eq_none_iff]
        simp only [List.mem_filterMap, Option.map_eq_some_iff]
        rintro _ ⟨r, hr, _, _, rfl⟩
        exact bne_iff_ne.mpr (Nat.ne_of_lt (hlt r hr))
    · have hne : (q.1 == p.1) = false := beq_false_of_ne (Nat.ne_of_gt (hlt q hq))
      cases g p.2 with
      | none => exact ih hinc.2 hq
      | some v => rw [Option.map_some, List.lookup_cons, hne]; exact ih hinc.2 hq

/-- the map holds the rows: no entry under the number of a row left out, its value (`some (some x)`) under that of a row
written -/
def TlvRows.HeldBy (rows : TlvRows) (m : List (Nat × Option TlvVal)) : Prop :=
  ∀ r ∈ rows, m.lookup r.1 = r.2.map fun kx => some kx.2

/-- a stream given row by row decodes, the reader knowing the kinds `known`, to a map that holds the rows -/
theorem tlvRows_decode (rows : TlvRows) (known : List (Nat × RecKind))
    (hinc : List.Pairwise (· < ·) (rows.map (·.1)))
    (hok : ∀ r ∈ rows, ∀ kx ∈ r.2, TlvRec.WF ⟨r.1, kx.1, kx.2⟩ ∧ known.lookup r.1 = some kx.1) :
    ∃ m, decodeStream known (encStream rows.recs) = .ok m [] ∧ rows.HeldBy m := by
  have hmem : ∀ r ∈ rows.recs, r.WF ∧ known.lookup r.typ = some r.kind := by
    intro r hr
    simp only [TlvRows.recs, List.mem_filterMap, Option.map_eq_some_iff] at hr
    obtain ⟨p, hp, kx, hkx, rfl⟩ := hr
    exact hok p hp kx hkx
  refine ⟨_, decodeStreamAux_enc known _ _ 0 (Nat.lt_succ_self _)
    (rows.incFrom 0 (fun _ _ => Nat.zero_le _) hinc) (fun r hr => (hmem r hr).1) (fun r hr => (hmem r hr).2),
    fun r hr => ?_⟩
  rw [← lookup_filterMap_mem (fun v => v.map fun kx => some kx.2) rows hinc r hr]
  simp only [mapOf, TlvRows.recs, List.map_filterMap, Option.map_map]
  rfl

end Pool.C10
