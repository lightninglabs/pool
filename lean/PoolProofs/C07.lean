import PoolProofs.C07LemmasModify
import PoolProofs.C07LemmasDeposit
import PoolProofs.C07LemmasOverflow

/-! C07: deposits, withdrawals, renewals and closures conserve the account's funds – headline theorems about the
model `PoolModel/C07.lean` of `account/manager.go` / `account/interfaces.go`.  In the comments `W` is `fullWeight tx w`:
4 × the serialised size of the broadcast transaction without witnesses + 2 + the estimated witness sizes. -/
namespace Pool.C07
open Pool.Gen.C07

/-- 144 / 52560 blocks: one day / one year.  No `uint32` wrap corner: the source computes the bounds in 64 bits
(regenerated fact `expiryWindowWide`). -/
theorem expiry_window (expiry best : UInt32) (h : validateAccountExpiry expiry best = .ok ()) :
    best.toNat + 144 ≤ expiry.toNat ∧ expiry.toNat ≤ best.toNat + 52560 := by
  have h1 : minAccountExpiry = 144 := by decide
  have h2 : maxAccountExpiry = 52560 := by decide
  unfold validateAccountExpiry at h
  rw [if_pos (by decide : expiryWindowWide = true)] at h
  obtain ⟨hlow, h⟩ := ite_error_eq_ok.mp h
  obtain ⟨hhigh, _⟩ := ite_error_eq_ok.mp h
  omega

example : validateAccountExpiry 800144 800000 = .ok () := by
  simp [validateAccountExpiry, show expiryWindowWide = true from by decide, minAccountExpiry, maxAccountExpiry]

/-- the rule with `uint32` sums that wrap: a hand copy, as a `Bool`, of the `expiryWindowWide = false` branch of the
model's `validateAccountExpiry` -/
def validateAccountExpiryWrap (expiry best : UInt32) : Bool :=
  !(expiry < best + UInt32.ofNat minAccountExpiry) && !(expiry > best + UInt32.ofNat maxAccountExpiry)

def expiry_window_wrap_statement : Prop :=
  ∀ expiry best : UInt32, validateAccountExpiryWrap expiry best = true →
    best.toNat + 144 ≤ expiry.toNat ∧ expiry.toNat ≤ best.toNat + 52560

/-- best = 2^32 − 100, expiry = 100; corpus/C07/defect-expiry-wrap.json replays it on the Go code -/
theorem expiry_window_wrap_rule_false : ¬ expiry_window_wrap_statement := by
  intro h
  have := h 100 4294967196 (by decide)
  simp at this

theorem expiry_window_wrap_partial (expiry best : UInt32) (hb : best.toNat + 52560 < 4294967296)
    (h : validateAccountExpiryWrap expiry best = true) :
    best.toNat + 144 ≤ expiry.toNat ∧ expiry.toNat ≤ best.toNat + 52560 := by
  have h1 : minAccountExpiry = 144 := by decide
  have h2 : maxAccountExpiry = 52560 := by decide
  simp only [validateAccountExpiryWrap, h1, h2, Bool.and_eq_true, Bool.not_eq_true', decide_eq_false_iff_not,
    UInt32.not_lt] at h
  have e1 : (best + UInt32.ofNat 144).toNat = best.toNat + 144 := by
    simp [UInt32.toNat_add]; omega
  have e2 : (best + UInt32.ofNat 52560).toNat = best.toNat + 52560 := by
    simp [UInt32.toNat_add]; omega
  obtain ⟨ha, hb'⟩ := h
  rw [UInt32.le_iff_toNat_le] at ha hb'
  omega

example : (4294000000 : UInt32).toNat + 52560 < 4294967296 ∧ validateAccountExpiryWrap 4294000200 4294000000 = true := by
  decide

/-- C07, withdrawal: recorded value = value of the re-created output = old − withdrawn − fee, fee = rate·W/1000 ≥
253·W/1000 (`ModifySpec`). -/
theorem C07_withdraw_conserves (so : ScriptOf) (hso : ScriptLen34 so) (a : Account) (outputs : List TxOut)
    (rate : Int) (best eh : UInt32) (nv : Nat) (f : Faults)
    (h : (withdraw so a outputs rate best eh nv f).refusal = none) :
    a.state = StateOpen ∧ a.version ≤ nv ∧
    (eh ≠ 0 → best.toNat + 144 ≤ eh.toNat ∧ eh.toNat ≤ best.toNat + 52560) ∧
    ModifySpec so a outputs rate (determineWitnessType a best) (if eh ≠ 0 then some eh else none) nv
      (withdraw so a outputs rate best eh nv f) := by
  obtain ⟨ne, v, g⟩ := (withdraw_cases ..).passed_of_accepted h
  obtain ⟨rfl, hwin⟩ := optExpiry_ok g.expiry
  exact ⟨g.state, g.version, fun hx => expiry_window _ _ (hwin hx), modify_spec hso (by decide) g.toModifyPassed h⟩

/-- C07, renewal: `ModifySpec` with no requested outputs (new value = old − fee), always on the cooperative path. -/
theorem C07_renew_conserves (so : ScriptOf) (hso : ScriptLen34 so) (a : Account) (newExpiry : UInt32)
    (rate : Int) (best : UInt32) (nv : Nat) (f : Faults)
    (h : (renew so a newExpiry rate best nv f).refusal = none) :
    (a.state = StateOpen ∨ a.state = StateExpired) ∧ a.version ≤ nv ∧
    (best.toNat + 144 ≤ newExpiry.toNat ∧ newExpiry.toNat ≤ best.toNat + 52560) ∧
    ModifySpec so a [] rate (if a.version ≥ VersionTaprootEnabled then wt_muSig2Taproot else wt_multiSigWitness)
      (some newExpiry) nv (renew so a newExpiry rate best nv f) := by
  obtain ⟨v, g⟩ := (renew_cases ..).passed_of_accepted h
  exact ⟨g.state, g.version, expiry_window _ _ g.expiry, modify_spec hso (by decide) g.toModifyPassed h⟩

/-- C07, which path a spend takes.  The first conjunct is about the model; the three equations tie it to the source:
Go's `determineWitnessType` has exactly that condition and `spendAccount` gives lock time `bestHeight` to the expiry
witnesses, `0` to the cooperative ones (regenerated facts, normalised: parameters named by type, locals inlined,
comparisons canonicalised, if-chains ≡ switches). -/
theorem C07_spend_path (a : Account) (best : UInt32) :
    (((determineWitnessType a best = wt_expiryWitness ∨ determineWitnessType a best = wt_expiryTaproot) ↔
      (a.state = StateExpired ∨ a.expiry.toNat ≤ best.toNat)) ∧
     ((determineWitnessType a best = wt_multiSigWitness ∨ determineWitnessType a best = wt_muSig2Taproot) ↔
      ¬ (a.state = StateExpired ∨ a.expiry.toNat ≤ best.toNat))) ∧
    expiredConds = ["($account.Expiry <= $u32) || ($account.State == StateExpired)"] ∧
    lockTimeSwitch = [(wt_expiryWitness, "best"), (wt_multiSigWitness, "zero"), (wt_expiryTaproot, "best"),
      (wt_muSig2Taproot, "zero")] ∧
    expirySpendTypes = [wt_expiryWitness, wt_expiryTaproot] := by
  refine ⟨?_, rfl, rfl, rfl⟩
  have e1 : wt_expiryWitness = 0 := by decide
  have e2 : wt_multiSigWitness = 1 := by decide
  have e3 : wt_expiryTaproot = 2 := by decide
  have e4 : wt_muSig2Taproot = 3 := by decide
  have hle : best ≥ a.expiry ↔ a.expiry.toNat ≤ best.toNat := UInt32.le_iff_toNat_le
  unfold determineWitnessType
  rw [e1, e2, e3, e4]
  by_cases hv : a.version = VersionTaprootEnabled ∨ a.version = VersionMuSig2V100RC2 <;>
    by_cases hx : a.state = StateExpired ∨ best ≥ a.expiry <;>
    simp only [hv, hx, if_true, if_false] <;> rw [hle] at hx <;> simp [hx]

/-- C07, closure: everything but the fee is paid out, `fee = old − Σ outputs ≥ 253·W/1000`.  For `OutputWithFee`
(script given or wallet-derived) the single output is `old − rate·W/1000` for EVERY script class `ParsePkScript`
accepts. -/
theorem C07_close_conserves (so : ScriptOf) (a : Account) (fe : FeeExpr) (ws : Bool → Script) (best : UInt32)
    (f : Faults) (h : (close so a fe ws best f).refusal = none) :
    ∃ (outs : List TxOut) (tx : Tx) (acct' : Account) (w : Nat) (pre : List Effect),
      (a.state = StateOpen ∨ a.state = StateExpired) ∧
      fe.closeOutputs ws a.value (determineWitnessType a best) = .ok outs ∧
      (close so a fe ws best f).tx = some tx ∧ (close so a fe ws best f).account = some acct' ∧
      (close so a fe ws best f).trace = pre ++ [.storeWrite acct', .publish tx] ∧
      -- expiry path: the auctioneer is NOT contacted; cooperative path: exactly one request
      ((a.state = StateExpired ∨ a.expiry.toNat ≤ best.toNat) → pre = [] ∧ tx.lockTime = best.toNat) ∧
      (¬ (a.state = StateExpired ∨ a.expiry.toNat ≤ best.toNat) → pre.length = 1 ∧ tx.lockTime = 0) ∧
      (∀ e ∈ pre, e.isModify = true) ∧
      tx.inputs.map (·.prev) = [a.outPoint] ∧ tx.outputs.Perm outs ∧
      acct'.value = 0 ∧ acct'.state = StatePendingClosed ∧ acct'.outPoint = a.outPoint ∧
      witnessSize (determineWitnessType a best) = some w ∧
      feeForWeight FeePerKwFloor (fullWeight tx w) ≤ a.value - sumValues outs ∧
      (∀ o ∈ outs, isDustOutput o = false ∧ 0 ≤ o.value) ∧
      (∀ s r, fe = .outputWithFee s r →
        outs = [⟨a.value - feeForWeight r (fullWeight tx w), s.getD (ws (wtIsTaproot (determineWitnessType a best)))⟩]) ∧
      (∀ os, fe = .implicit os → outs = os) := by
  obtain ⟨outs, g⟩ := (close_cases ..).passed_of_accepted h
  obtain ⟨lock, p⟩ := (spendAccount_cases g.eq).passed_of_accepted h
  obtain ⟨pre, hc, hpre1, hpre2⟩ := spendCommit_cases (p.unlocated rfl)
  have heq' := hc.eq_of_accepted h
  obtain ⟨hdust, _, w, hw, hfloor⟩ := sanityCheck_acctSpend p.sane
  obtain ⟨hexpiff, hcoopiff⟩ := (C07_spend_path a best).1
  rw [heq']
  refine ⟨outs, _, _, w, pre, g.state, g.outputs, rfl, rfl, rfl, fun hx => ?_, fun hx => ?_, hpre2, rfl,
    sortBy_perm _ _, rfl, rfl, rfl, hw, hfloor, hdust, ?_, ?_⟩
  · have hnc : ¬ (determineWitnessType a best = wt_multiSigWitness ∨ determineWitnessType a best = wt_muSig2Taproot) :=
      fun hc => hcoopiff.mp hc hx
    rw [if_neg hnc] at hpre1
    exact ⟨List.eq_nil_of_length_eq_zero hpre1, p.path.elim (fun hc => absurd hc.1 hnc) (·.2.2)⟩
  · rw [if_pos (hcoopiff.mpr hx)] at hpre1
    exact ⟨hpre1, p.path.elim (·.2) (fun he => absurd (hexpiff.mp he.1) hx)⟩
  · intro s r hfe
    subst hfe
    obtain ⟨w', hw', hl, rfl⟩ := owf_close_ok g.outputs
    obtain rfl : w' = w := Option.some.inj (hw'.symm.trans hw)
    rw [fullWeight_createSpendTx, List.map_singleton, serializeSize_of_len _ hl]
  · intro os hfe
    subst hfe
    exact (Except.ok.inj g.outputs).symm

/-- C07, deposit: wallet inputs plus the account input, all outpoints distinct (so the account outpoint exactly once);
total fee `Σ inputs − Σ outputs ≥ 253·W/1000`.  Only the last two sub-claims need the assumptions on lnd's `FundPsbt`:
`FundShape` gives "outputs = account output + change, nothing else"; with `FundSum`, total fee =
`rate·(weight of the account input)/1000 + lndFee` and `new = old + (Σ wallet inputs − change) − fee`. -/
theorem C07_deposit_conserves (so : ScriptOf) (a : Account) (amount rate : Int) (best eh : UInt32) (nv : Nat)
    (maxValue : Option Int) (fd : Option Funded) (f : Faults)
    (h : (deposit so a amount rate best eh nv maxValue fd f).refusal = none) :
    ∃ (maxV : Int) (fdv : Funded) (fee : Int) (tx : Tx) (acct' : Account) (idx : Nat) (pre : List Effect)
      (inT : Int) (w : Nat),
      maxValue = some maxV ∧ fd = some fdv ∧ acctInputFee (determineWitnessType a best) rate = .ok fee ∧
      a.state = StateOpen ∧ a.version ≤ nv ∧
      (eh ≠ 0 → best.toNat + 144 ≤ eh.toNat ∧ eh.toNat ≤ best.toNat + 52560) ∧
      (deposit so a amount rate best eh nv maxValue fd f).tx = some tx ∧
      (deposit so a amount rate best eh nv maxValue fd f).account = some acct' ∧
      (deposit so a amount rate best eh nv maxValue fd f).trace = pre ++ [.storeWrite acct', .publish tx] ∧
      pre.length = 1 ∧ (∀ e ∈ pre, e.isModify = true) ∧
      tx.inputs.Perm (fdv.inputs ++ [a.txIn so]) ∧ (tx.inputs.map (·.prev)).Nodup ∧
      acct'.value = a.value + amount ∧ acct'.value ≤ maxV ∧ (MinAccountValue : Int) ≤ acct'.value ∧
      acct'.version = max a.version nv ∧
      acct'.state = StatePendingUpdate ∧ acct'.batchCtr = a.batchCtr + 1 ∧
      acct'.outPoint = ⟨selfHash, idx⟩ ∧ (∃ o, tx.outputs[idx]? = some o ∧ o.script = (acct'.output so).script) ∧
      (∀ o ∈ tx.outputs, isDustOutput o = false ∧ 0 ≤ o.value) ∧
      inT = a.value + (fdv.inputs.map (·.utxoValue)).sum ∧
      feeForWeight FeePerKwFloor (fullWeight tx w) ≤ inT - sumValues tx.outputs ∧
      tx.outputs.length = fdv.outputs.length ∧
      (∀ o ∈ tx.outputs, o = acct'.output so ∨
        ∃ j : Nat, fdv.changeIdx = (j : Int) ∧ fdv.outputs[j]? = some o) ∧
      (∀ change, FundShape fdv (acct'.output so).script (amount + fee) change →
        tx.outputs.Perm (acct'.output so :: change) ∧
        ∀ lndFee, FundSum fdv (amount + fee) change lndFee →
          inT - sumValues tx.outputs = fee + lndFee ∧
          acct'.value = a.value + ((fdv.inputs.map (·.utxoValue)).sum - sumValues change) - (fee + lndFee)) := by
  obtain ⟨maxV, ne, tx0, g⟩ := (deposit_cases ..).passed_of_accepted h
  obtain ⟨idx, pre, acct', rfl, hnew, _, hl, hsan, hpre1, hpre2, heq'⟩ := spendAccount_modify_ok (by decide) g.eq h
  obtain ⟨fee, fdv, outs, hfee, hfd, hfix, rfl⟩ := inputsForDeposit_ok g.funded
  obtain ⟨hout, hnd, inT, w, hin, _, hfloor⟩ := sanityCheck_ok hsan
  rw [hnew] at hfix
  have hpin := sortBy_perm inLt (fdv.inputs ++ [a.txIn so])
  have hinT := sanityInputs_deposit hpin hnd hin
  have hpout := sortBy_perm outLt outs
  rw [heq']
  refine ⟨maxV, fdv, fee, _, _, idx, pre, inT, w, g.terms, hfd, hfee, g.state, g.version,
    fun hx => expiry_window _ _ ((optExpiry_ok g.expiry).2 hx), rfl, rfl, rfl, hpre1, hpre2, hpin, hnd, rfl, g.le_max,
    g.ge_min, rfl, rfl, rfl, rfl, locateScript_some hl, hout, hinT, hfloor, ?_, ?_, ?_⟩
  · rw [hpout.length_eq, fixupOutputs_ok hfix, List.length_map, List.length_zipIdx]
  · intro o ho
    rw [hpout.mem_iff, fixupOutputs_ok hfix] at ho
    obtain ⟨p, hp, rfl⟩ := List.mem_map.mp ho
    by_cases hc : fdv.changeIdx = (p.2 : Int)
    · exact .inr ⟨p.2, hc, by rw [if_pos hc]; exact List.mem_zipIdx_iff_getElem?.mp hp⟩
    · exact .inl (if_neg hc)
  · intro change hshape
    have hp2 := hpout.trans (fixup_fundShape hshape hfix)
    have hsum : sumValues (sortBy outLt outs) = a.value + amount + sumValues change := by
      rw [sumValues_perm hp2]; rfl
    refine ⟨hp2, fun lndFee hfs => ?_⟩
    rw [hinT, hsum, hfs.1]
    dsimp only
    constructor <;> omega

/-- C07, leases on the wallet inputs `FundPsbt` selected: an accepted deposit keeps them (the broadcast transaction
spends them); a refused one – collaborator faults after funding included – leaves none behind. -/
theorem C07_deposit_locks (so : ScriptOf) (a : Account) (amount rate : Int) (best eh : UInt32) (nv : Nat)
    (maxValue : Option Int) (fd : Option Funded) (f : Faults) :
    ((deposit so a amount rate best eh nv maxValue fd f).refusal = none →
      ∃ fdv, fd = some fdv ∧ depositLocks so a amount rate best eh nv maxValue fd f
        = (if fdv.inputs.isEmpty then Locks.none else Locks.held fdv.inputs.length)) ∧
    (∀ r, (deposit so a amount rate best eh nv maxValue fd f).refusal = some r →
      depositLocks so a amount rate best eh nv maxValue fd f = Locks.none ∨
      ∃ n, depositLocks so a amount rate best eh nv maxValue fd f = Locks.released n) := by
  constructor
  · intro h
    obtain ⟨maxV, ne, tx, g⟩ := (deposit_cases ..).passed_of_accepted h
    obtain ⟨fee, fdv, _, hfee, hfd, _, _⟩ := inputsForDeposit_ok g.funded
    refine ⟨fdv, hfd, ?_⟩
    have hreach : depositReachesFunding a amount rate best eh nv maxValue fd = some fdv := by
      unfold depositReachesFunding
      simp [g.state, Nat.not_lt.mpr g.version, g.terms, Int.not_lt.mpr g.ge_min, Int.not_lt.mpr g.le_max, g.expiry,
        hfee, hfd]
    unfold depositLocks
    rw [hreach]
    simp [h]
  · intro r hr
    unfold depositLocks
    split
    · exact Or.inl rfl
    · split
      · exact Or.inl rfl
      · rw [hr]; simp

/-- C07, a deposit is judged against the auctioneer terms in force when it runs.  Tied to the source: `DepositAccount`
queries `Auctioneer.Terms` on every call and the manager has no field that could hold earlier terms (regenerated
facts `depositQueriesTerms`, `managerTermsFields`), so the `maxValue` parameter of the model is that maximum. -/
theorem C07_terms_in_force (so : ScriptOf) (a : Account) (amount rate : Int) (best eh : UInt32) (nv : Nat)
    (maxValue : Option Int) (fd : Option Funded) (f : Faults) :
    ((deposit so a amount rate best eh nv maxValue fd f).trace ≠ [] →
      ∃ maxV, maxValue = some maxV ∧ a.value + amount ≤ maxV) ∧
    (maxValue = none → (deposit so a amount rate best eh nv maxValue fd f).trace = []) ∧
    depositQueriesTerms = true ∧ managerTermsFields = [] := by
  refine ⟨fun h => ?_, fun hn => ?_, by decide, by decide⟩
  · obtain ⟨maxV, _, _, g⟩ := (deposit_cases ..).passed_of_effect h
    exact ⟨maxV, g.terms, g.le_max⟩
  · exact (deposit_cases ..).trace_nil_of_not_passed fun ⟨_, _, _, g⟩ => nomatch hn.symm.trans g.terms

/-- C07, versions: `createNewAccountOutput` (run by deposit, withdrawal and renewal) records `max old requested`.
`hn`: the RPC layer's `determineAccountVersion` passes only known versions (≤ 2); the manager itself does not reject
larger ones. -/
theorem C07_versions_preserved (so : ScriptOf) (a : Account) (v : Int) (ne : Option UInt32) (nv : Nat)
    (ha : a.version ≤ VersionMuSig2V100RC2) (hn : nv ≤ VersionMuSig2V100RC2) :
    (applyMods a (createNewAccountOutput so a v ne nv).2).version ≤ VersionMuSig2V100RC2 ∧
    a.version ≤ (applyMods a (createNewAccountOutput so a v ne nv).2).version := by
  rw [cnao_applyMods]
  exact ⟨Nat.max_le.mpr ⟨ha, hn⟩, Nat.le_max_left _ _⟩

/-- C07, the model's unbounded integers against Go's `int64`: inside `InDomain` (for `OutputWithFee.CloseOutputs`: its
bounds on value and rate) every intermediate value of `valueAfterAccountUpdate` and of `CloseOutputs` is in range, so
the wrapped arithmetic coincides with the model's there. -/
theorem C07_no_int64_overflow :
    (∀ (value rate : Int) (outs : List TxOut) (wt : Nat) (v : Int), InDomain value rate outs →
      valueAfterAccountUpdate value outs wt rate = .ok v →
      ∃ w t, witnessSize wt = some w ∧
        vauLoop ((({} : Twe).addWitnessInput w).addOutput baseAccountOutputSize) 0 outs = .ok (t, sumValues outs) ∧
        (∀ k, I64 (sumValues (outs.take k))) ∧ I64 (sumValues outs) ∧
        (t.weight : Int) ≤ 200000 ∧ I64 (rate * (t.weight : Int)) ∧ I64 (feeForWeight rate t.weight) ∧
        I64 (value - sumValues outs) ∧ I64 (value - sumValues outs - feeForWeight rate t.weight) ∧
        v = value - sumValues outs - feeForWeight rate t.weight) ∧
    (∀ (s : Script) (r value : Int) (wt : Nat) (outs : List TxOut),
      0 ≤ value ∧ value ≤ 2100000000000000 → 0 ≤ r ∧ r ≤ 1000000000 →
      outputWithFeeCloseOutputs s r value wt = .ok outs →
      ∃ w W : Nat, witnessSize wt = some w ∧ W = (8 + 1 + 41 + 1 + (9 + s.length)) * 4 + 2 + w ∧ W ≤ 200000 ∧
        I64 (r * (W : Int)) ∧ I64 (feeForWeight r W) ∧ I64 (value - feeForWeight r W) ∧
        outs = [⟨value - feeForWeight r W, s⟩]) := by
  constructor
  · intro value rate outs wt v hd h
    obtain ⟨_, w, t, hw, hl, hv⟩ := vau_ok h
    have hweight : t.weight ≤ 200000 := by
      -- at most (8 + 1 + 41 + 9 + 43 + 43·1000)·4 + 2 + 1000 = 173 410
      have := witnessSize_le hw
      have := sum_serializeSize_le outs (vauLoop_ok hl).2.2
      have := varIntSize_le (outs.length + 1)
      have := hd.hcount
      rw [vauLoop_weight hl, spendWeight, List.length_cons, List.sum_cons, List.length_map]; omega
    obtain ⟨hfee0, hfee, hprod⟩ := fee_bounds hd.hrate hweight
    have hsum := sumValues_bound outs hd.houts
    have hlenI : (outs.length : Int) ≤ 1000 := by have := hd.hcount; omega
    have hv1 := hd.hvalue
    refine ⟨w, t, hw, hl, fun k => prefix_sums_I64 outs k hd.houts hd.hcount, ?_⟩
    unfold I64
    omega
  · intro s r value wt outs hv hr h
    obtain ⟨w, hw, hl, ho⟩ := owf_close_ok h
    have hwle := witnessSize_le hw
    have hW : (8 + 1 + 41 + 1 + (9 + s.length)) * 4 + 2 + w ≤ 200000 := by omega
    obtain ⟨hfee0, hfee, hprod⟩ := fee_bounds hr hW
    refine ⟨w, _, hw, rfl, hW, ?_, ?_, ?_, ho⟩ <;> (unfold I64; omega)

/-- C07, refusals leave no effect, as the contrapositive: an operation with ANY effect (auctioneer request, store write
or broadcast) had passed every check the property lists. -/
theorem C07_refusals_no_effect (so : ScriptOf) (a : Account) (best : UInt32) (f : Faults) :
    (∀ outputs rate eh nv, (withdraw so a outputs rate best eh nv f).trace ≠ [] →
      a.state = StateOpen ∧ a.version ≤ nv ∧
      (eh ≠ 0 → best.toNat + 144 ≤ eh.toNat ∧ eh.toNat ≤ best.toNat + 52560) ∧
      (∃ v, valueAfterAccountUpdate a.value outputs (determineWitnessType a best) rate = .ok v ∧
        (MinAccountValue : Int) ≤ v) ∧
      (∀ o ∈ outputs, isDustOutput o = false ∧ 0 ≤ o.value)) ∧
    (∀ newExpiry rate nv, (renew so a newExpiry rate best nv f).trace ≠ [] →
      (a.state = StateOpen ∨ a.state = StateExpired) ∧ a.version ≤ nv ∧
      (best.toNat + 144 ≤ newExpiry.toNat ∧ newExpiry.toNat ≤ best.toNat + 52560) ∧
      (∃ v, valueAfterAccountUpdate a.value []
          (if a.version ≥ VersionTaprootEnabled then wt_muSig2Taproot else wt_multiSigWitness) rate = .ok v ∧
        (MinAccountValue : Int) ≤ v)) ∧
    (∀ fe ws, (close so a fe ws best f).trace ≠ [] →
      (a.state = StateOpen ∨ a.state = StateExpired) ∧
      ∃ outs, fe.closeOutputs ws a.value (determineWitnessType a best) = .ok outs ∧
        (∀ o ∈ outs, isDustOutput o = false ∧ 0 ≤ o.value) ∧ sumValues outs ≤ a.value) ∧
    (∀ amount rate eh nv maxValue fd, (deposit so a amount rate best eh nv maxValue fd f).trace ≠ [] →
      a.state = StateOpen ∧ a.version ≤ nv ∧
      (eh ≠ 0 → best.toNat + 144 ≤ eh.toNat ∧ eh.toNat ≤ best.toNat + 52560) ∧
      (∃ maxV, maxValue = some maxV ∧ a.value + amount ≤ maxV) ∧ (MinAccountValue : Int) ≤ a.value + amount ∧
      ∃ ne tx, inputsForDeposit so a (createNewAccountOutput so a (a.value + amount) ne nv).1 amount
          (determineWitnessType a best) rate fd = .ok tx ∧
        (∀ o ∈ tx.outputs, isDustOutput o = false ∧ 0 ≤ o.value)) := by
  refine ⟨?_, ?_, ?_, ?_⟩
  · intro outputs rate eh nv h
    obtain ⟨ne, v, g⟩ := (withdraw_cases ..).passed_of_effect h
    obtain ⟨lock, p⟩ := (spendAccount_cases g.eq).passed_of_effect h
    exact ⟨g.state, g.version, fun hx => expiry_window _ _ ((optExpiry_ok g.expiry).2 hx),
      ⟨v, g.value, (vau_ok g.value).1⟩, fun o ho => (sanityCheck_acctSpend p.sane).1 o (List.mem_cons_of_mem _ ho)⟩
  · intro newExpiry rate nv h
    obtain ⟨v, g⟩ := (renew_cases ..).passed_of_effect h
    exact ⟨g.state, g.version, expiry_window _ _ g.expiry, v, g.value, (vau_ok g.value).1⟩
  · intro fe ws h
    obtain ⟨outs, g⟩ := (close_cases ..).passed_of_effect h
    obtain ⟨lock, p⟩ := (spendAccount_cases g.eq).passed_of_effect h
    obtain ⟨hdust, hle, _⟩ := sanityCheck_acctSpend p.sane
    exact ⟨g.state, outs, g.outputs, hdust, hle⟩
  · intro amount rate eh nv maxValue fd h
    obtain ⟨maxV, ne, tx, g⟩ := (deposit_cases ..).passed_of_effect h
    obtain ⟨lock, p⟩ := (spendAccount_cases g.eq).passed_of_effect h
    exact ⟨g.state, g.version, fun hx => expiry_window _ _ ((optExpiry_ok g.expiry).2 hx), ⟨maxV, g.terms, g.le_max⟩,
      g.ge_min, ne, tx, g.funded, (sanityCheck_ok p.sane).1⟩

def exSo : ScriptOf := fun v _ c => 0x00 :: 0x20 :: List.replicate 32 (UInt8.ofNat (v + c))
def exAcct : Account :=
  { value := 1000000, expiry := 801000, state := 3, version := 0, batchCtr := 0, outPoint := ⟨[1, 2, 3], 0⟩ }
def exOut : TxOut := ⟨200000, 0x00 :: 0x14 :: List.replicate 20 7⟩
def exP2PKH : Script := [0x76, 0xa9, 0x14] ++ List.replicate 20 9 ++ [0x88, 0xac]
def exFunded : Funded :=
  { inputs := [⟨⟨[9, 9], 1⟩, 600000, 0x00 :: 0x14 :: List.replicate 20 5, 0⟩],
    outputs := [⟨500000 + 110, exSo 0 801000 1⟩, ⟨99000, 0x00 :: 0x14 :: List.replicate 20 6⟩], changeIdx := 1 }

example : ScriptLen34 exSo := by intro v e c; simp [exSo]
set_option maxRecDepth 100000 in
example : (withdraw exSo exAcct [exOut] 253 800000 0 1 {}).refusal = none := by decide +kernel
set_option maxRecDepth 100000 in
example : (renew exSo exAcct 810000 300 800000 0 {}).refusal = none := by decide +kernel
set_option maxRecDepth 100000 in
example : (close exSo exAcct (.outputWithFee (some exP2PKH) 1000) (fun _ => []) 800000 {}).refusal = none :=
  by decide +kernel
set_option maxRecDepth 100000 in
example : (close exSo { exAcct with state := 4 } (.implicit [⟨999000, exOut.script⟩]) (fun _ => []) 801000 {}).refusal
    = none := by decide +kernel
set_option maxRecDepth 100000 in
example : (deposit exSo exAcct 500000 253 800000 0 0 (some 10000000) (some exFunded) {}).refusal = none :=
  by decide +kernel
set_option maxRecDepth 100000 in
example : FundOk exFunded (exSo 0 801000 1) (500000 + 110) [⟨99000, 0x00 :: 0x14 :: List.replicate 20 6⟩] 890 :=
  ⟨Or.inr (Or.inr ⟨rfl, _, rfl, rfl⟩), by decide, by decide⟩
-- a withdrawal with a dust output is refused without effect; one with an auctioneer fault leaves only the request
set_option maxRecDepth 100000 in
example : (withdraw exSo exAcct [⟨293, exOut.script⟩] 253 800000 0 0 {}).trace.length = 0
    ∧ (withdraw exSo exAcct [exOut] 253 800000 0 0 { auctioneer := true }).trace.length = 1
    ∧ (withdraw exSo exAcct [exOut] 253 800000 0 0 {}).trace.length = 3 := by decide +kernel

set_option maxRecDepth 100000 in
example : (applyMods exAcct (createNewAccountOutput exSo exAcct 5 none 2).2).version = 2 := by decide +kernel

example : InDomain 1000000 253 [exOut] :=
  ⟨by decide, by decide, by intro o ho; simp [exOut] at ho; subst ho; decide, by decide⟩
set_option maxRecDepth 100000 in
example : (valueAfterAccountUpdate 1000000 [exOut] 1 253).toOption = some 799816 := by decide +kernel

set_option maxRecDepth 100000 in
example : depositLocks exSo exAcct 500000 253 800000 0 0 (some 10000000) (some exFunded) {} = .held 1
    ∧ depositLocks exSo exAcct 500000 253 800000 0 0 (some 10000000) (some exFunded) { store := true } = .released 1
    ∧ depositLocks exSo exAcct 500000 253 800000 0 5 (some 100) (some exFunded) {} = .none := by decide +kernel

set_option maxRecDepth 100000 in
example : (deposit exSo exAcct 500000 253 800000 0 0 (some 1400000) (some exFunded) {}).trace = []
    ∧ (deposit exSo exAcct 500000 253 800000 0 0 (some 1500000) (some exFunded) {}).trace.length = 3 :=
  by decide +kernel

end Pool.C07
