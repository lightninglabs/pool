import PoolProofs.BatchLemmas
/-! `ParseRPCBatch`'s lease-duration bucket check: every matched order of a parsed batch carries the duration of a
market of the message, and that market's clearing price is published in `ClearingPrices`. -/
namespace Pool.Batch

theorem mem_mapInsert {k : Nonce} {v : List Their} {acc : List (Nonce × List Their)} {x : Nonce × List Their}
    (h : x ∈ mapInsert k v acc) : x = (k, v) ∨ x ∈ acc := by
  induction acc with
  | nil => simpa [mapInsert] using h
  | cons a as ih =>
    simp only [mapInsert] at h
    split at h <;> simp only [List.mem_cons] at h ⊢
    · exact h.imp_right .inr
    · rcases h with h | h
      · exact .inr (.inl h)
      · exact (ih h).imp_right .inr

def DurIn (ds : List Nat) (acc : List (Nonce × List Their)) : Prop := ∀ nm ∈ acc, ∀ t ∈ nm.2, t.duration ∈ ds

theorem parseMarketOrders_durIn {D : Nat} {ds : List Nat} (hD : D ∈ ds) {ms : List MatchedRpc}
    {acc res : List (Nonce × List Their)} (h : DurIn ds acc) (hr : parseMarketOrders D ms acc = .ok res) :
    DurIn ds res := by
  induction ms generalizing acc with
  | nil => cases hr; exact h
  | cons m ms ih =>
    simp only [parseMarketOrders] at hr
    split at hr
    · contradiction
    rename_i ts _
    obtain ⟨hall, hr⟩ := ite_else_error_eq_ok.mp hr
    refine ih (fun nm hnm t ht => ?_) hr
    rcases mem_mapInsert hnm with rfl | hnm
    · exact (show t.duration = D by simpa using List.all_eq_true.mp hall t ht) ▸ hD
    · exact h nm hnm t ht

theorem parseMarkets_durIn {mks : List MarketRpc} {ds : List Nat} {acc : List (Nonce × List Their)}
    {cp : List (Nat × Nat)} {res : List (Nonce × List Their) × List (Nat × Nat)}
    (hds : ∀ mk ∈ mks, mk.duration ∈ ds) (h : DurIn ds acc) (hr : parseMarkets mks acc cp = .ok res) :
    DurIn ds res.1 ∧ res.2 = cp ++ mks.map (fun mk => (mk.duration, mk.price)) := by
  induction mks generalizing acc cp with
  | nil => cases hr; simp [h]
  | cons mk mks ih =>
    simp only [parseMarkets] at hr
    split at hr
    · contradiction
    rename_i acc' hp
    obtain ⟨h1, h2⟩ := ih (fun m hm => hds m (List.mem_cons_of_mem _ hm))
      (parseMarketOrders_durIn (hds mk List.mem_cons_self) h hp) hr
    exact ⟨h1, by rw [h2]; simp⟩

theorem parse_clearing_published (m : PrepareMsg) (b : Batch) (h : parseRPCBatch m = .ok b) :
    ∀ nm ∈ b.matched, ∀ t ∈ nm.2, (b.clearing.lookup t.duration).isSome = true := by
  unfold parseRPCBatch at h
  split at h
  · contradiction
  rename_i matched clearing hp
  cases h
  obtain ⟨h1, h2⟩ := parseMarkets_durIn (ds := m.markets.map (·.duration))
    (fun mk hmk => List.mem_map.mpr ⟨mk, hmk, rfl⟩) (fun nm hnm => by simp at hnm) hp
  intro nm hnm t ht
  obtain ⟨mk, hmk, hd⟩ := List.mem_map.mp (h1 nm hnm t ht)
  simp only [List.nil_append] at h2
  exact List.lookup_isSome_iff.mpr ⟨(mk.duration, mk.price), h2 ▸ List.mem_map.mpr ⟨mk, hmk, rfl⟩, by simp [hd]⟩

end Pool.Batch
