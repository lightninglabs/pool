import PoolModel.Dec.Rpc
import PoolProofs.Guard
/-! C19, rpc part: with nil-checked arguments no parser of the model reaches `panic`, and the outcome class of the
loops over Go maps does not depend on the order of the entries. -/
namespace Pool.Dec

@[simp] theorem POut.bind_eq_panic {α β : Type} {x : POut α} {f : α → POut β} :
    (x >>= f) = .panic ↔ x = .panic ∨ ∃ a, x = .ok a ∧ f a = .panic := by
  cases x <;> simp

@[simp] theorem POut.ite_eq_panic {α : Type} {c : Prop} [Decidable c] {x y : POut α} :
    (if c then x else y) = .panic ↔ (c ∧ x = .panic) ∨ (¬ c ∧ y = .panic) := by
  split <;> simp [*]

@[simp] theorem arg_ne_panic {α : Type} (cfg : RpcCfg) (h : cfg.nilChecks = true) (p : Option α) :
    arg cfg p ≠ .panic := by
  unfold arg; cases p <;> simp [h]

/-! With these three rules `simp` reduces "this `do` block panics" to "one of the parsers it calls panics"; each
lemma below only names those. -/

theorem parseRPCServerOrder_ne_panic (cfg : RpcCfg) (h : cfg.nilChecks = true) (d : Option ServerOrder)
    (isAsk : Bool) (l : Nat) : parseRPCServerOrder cfg d isAsk l ≠ .panic := by
  simp [parseRPCServerOrder, parseNodeAddrs, h]

theorem parseRPCServerAsk_ne_panic (cfg : RpcCfg) (h : cfg.nilChecks = true) (d : Option ServerAsk) :
    parseRPCServerAsk cfg d ≠ .panic := by
  simp [parseRPCServerAsk, parseRPCServerOrder_ne_panic, h]

theorem parseRPCServerBid_ne_panic (cfg : RpcCfg) (h : cfg.nilChecks = true) (d : Option ServerBid) :
    parseRPCServerBid cfg d ≠ .panic := by
  simp [parseRPCServerBid, parseRPCServerOrder_ne_panic, h]

theorem parseAsks_ne_panic (cfg : RpcCfg) (h : cfg.nilChecks = true) (l : List MatchedAsk) :
    parseAsks cfg l ≠ .panic := by
  induction l with
  | nil => simp [parseAsks]
  | cons a as ih => simp [parseAsks, parseRPCServerAsk_ne_panic, h, ih]

theorem parseBids_ne_panic (cfg : RpcCfg) (h : cfg.nilChecks = true) (l : List MatchedBid) :
    parseBids cfg l ≠ .panic := by
  induction l with
  | nil => simp [parseBids]
  | cons a as ih => simp [parseBids, parseRPCServerBid_ne_panic, h, ih]

theorem parseRPCMatchedOrders_ne_panic (cfg : RpcCfg) (h : cfg.nilChecks = true) (o : MatchedOrder) :
    parseRPCMatchedOrders cfg o ≠ .panic := by
  simp [parseRPCMatchedOrders, parseAsks_ne_panic, parseBids_ne_panic, h]

theorem parseOrders_ne_panic (cfg : RpcCfg) (h : cfg.nilChecks = true) (dur : Nat)
    (l : List (Bytes × MatchedOrder)) : parseOrders cfg dur l ≠ .panic := by
  induction l with
  | nil => simp [parseOrders]
  | cons a as ih => simp [parseOrders, parseRPCMatchedOrders_ne_panic, h, ih]

theorem parseMarkets_ne_panic (cfg : RpcCfg) (h : cfg.nilChecks = true) (l : List (Nat × MatchedMarket)) :
    parseMarkets cfg l ≠ .panic := by
  induction l with
  | nil => simp [parseMarkets]
  | cons a as ih => simp [parseMarkets, parseOrders_ne_panic, h, ih]

theorem parseDiffs_ne_panic (l : List AccountDiff) : parseDiffs l ≠ .panic := by
  induction l with
  | nil => simp [parseDiffs]
  | cons a as ih => simp [parseDiffs, ih]

theorem parseRPCBatch_ne_panic (cfg : RpcCfg) (h : cfg.nilChecks = true) (m : OrderMatchPrepare) :
    parseRPCBatch cfg m ≠ .panic := by
  simp [parseRPCBatch, parseMarkets_ne_panic, parseDiffs_ne_panic, h]

theorem parseNonces_ne_panic (l : List (Bytes × Bytes)) : parseNonces l ≠ .panic := by
  induction l with
  | nil => simp [parseNonces]
  | cons a as ih => simp [parseNonces, ih]

theorem ok_iff_forall {ε : Type} {go : List ε → POut Unit} {good : ε → Prop} (hnil : go [] = .ok ())
    (hcons : ∀ e l, go (e :: l) = .ok () ↔ good e ∧ go l = .ok ()) (l : List ε) :
    go l = .ok () ↔ ∀ e ∈ l, good e := by
  induction l with
  | nil => simp [hnil]
  | cons e l ih => rw [hcons, ih, List.forall_mem_cons]

theorem cls_eq_of_ok_iff {x y : POut Unit} (hx : x ≠ .panic) (hy : y ≠ .panic) (h : x = .ok () ↔ y = .ok ()) :
    x.cls = y.cls := by
  cases x with
  | ok u => cases u; rw [h.1 rfl]
  | panic => exact absurd rfl hx
  | err e =>
    cases y with
    | ok u => cases u; have := h.2 rfl; cases this
    | err e' => rfl
    | panic => exact absurd rfl hy

theorem cls_perm {ε : Type} {go : List ε → POut Unit} {good : ε → Prop} (hok : ∀ l, go l = .ok () ↔ ∀ e ∈ l, good e)
    (htot : ∀ l, go l ≠ .panic) {l l' : List ε} (hp : l.Perm l') : (go l).cls = (go l').cls := by
  apply cls_eq_of_ok_iff (htot l) (htot l')
  rw [hok, hok]
  exact ⟨fun h e he => h e (hp.mem_iff.2 he), fun h e he => h e (hp.mem_iff.1 he)⟩

theorem parseOrders_ok_iff (cfg : RpcCfg) (dur : Nat) (l : List (Bytes × MatchedOrder)) :
    parseOrders cfg dur l = .ok () ↔
      ∀ e ∈ l, hexOK e.1 = true ∧ ∃ durs, parseRPCMatchedOrders cfg e.2 = .ok durs ∧ durs.all (· == dur) = true := by
  refine ok_iff_forall rfl (fun ⟨k, mo⟩ rest => ?_) l
  rw [parseOrders]
  cases hexOK k <;> cases parseRPCMatchedOrders cfg mo <;> simp [ite_else_eq_iff_of_ne]

theorem parseMarkets_ok_iff (cfg : RpcCfg) (l : List (Nat × MatchedMarket)) :
    parseMarkets cfg l = .ok () ↔ ∀ e ∈ l, parseOrders cfg e.1 e.2.matchedOrders = .ok () := by
  refine ok_iff_forall rfl (fun ⟨d, m⟩ rest => ?_) l
  rw [parseMarkets]
  cases parseOrders cfg d m.matchedOrders <;> simp

theorem parseNonces_ok_iff (l : List (Bytes × Bytes)) :
    parseNonces l = .ok () ↔ ∀ e ∈ l, e.1.length = 66 ∧ e.2.length = 66 ∧ hexOK e.1 = true := by
  refine ok_iff_forall rfl (fun ⟨k, n⟩ rest => ?_) l
  rw [parseNonces]
  by_cases h1 : k.length = 66 <;> by_cases h2 : n.length = 66 <;> cases h3 : hexOK k <;> simp [h1, h2]

end Pool.Dec
