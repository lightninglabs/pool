import PoolProofs.C10LemmasSnap
import PoolModel.C10Db
/-! C10 – stored accounts, orders and batch snapshots read back unchanged. The codec round trips restate the `Reads`
lemmas of `C10Lemmas*` with an explicit `rest`; the others lift them to the bucket model (`C10Db`). (R) marks an
evaluation of the lists regenerated from the Go source (`Pool.Gen.Store`) that the model walks. -/
namespace Pool.C10
open Pool.Gen

/-- (R) the account serialiser and deserialiser name the same fields in the same order, all known to `acctTbl`, and
agree on the states without `LatestTx` -/
theorem acct_lists_agree :
    (elemList "serializeAccount" 0).all (fun n => (acctTbl n).isSome) = true ∧
    (elemList "serializeAccount" 0).map (fun n => if n = "uint8(rawState)" then "rawState" else n) =
      elemList "deserializeAccount" 0 ∧
    elemList "serializeAccount" 1 = elemList "deserializeAccount" 1 ∧
    Store.noLatestTx_serializeAccount = Store.noLatestTx_deserializeAccount ∧
    (∀ s ∈ Store.accountStates.map (·.2), s < Store.accountStateVersionedMask) :=
  ⟨by decide +kernel, by decide +kernel, by decide +kernel, noLatestTx_agree, accountStates_lt⟩

/-- (R) `tlv.NewStream` demands increasing type numbers, and they make the written stream canonical; writer and reader
name the same type constants (the account stream: the same record list). The numbers themselves: `orderRows`, `orderKinds`. -/
theorem tlv_types_increasing :
    List.Pairwise (· < ·) (Lser.map fun p => tlvType p.1) ∧
    List.Pairwise (· < ·) (Lde.map fun p => tlvType p.1) ∧
    Lser.map (·.1) = Lde.map (·.1) ∧
    (Store.tlvRecords.lookup "serializeAccountTlvData") = (Store.tlvRecords.lookup "deserializeAccountTlvData") := by
  decide +kernel

theorem fixedWidth_roundtrip (n v : Nat) (rest : Bytes) (h : v < 256 ^ n) :
    readBE n (beEnc n v ++ rest) = .ok v rest := readBE_rt h rest

theorem bigSize_roundtrip (v : Nat) (rest : Bytes) (h : v < 2 ^ 64) :
    readBigSize (encBigSize v ++ rest) = .ok v rest := readBigSize_rt h rest

theorem tlvStream_roundtrip (known : List (Nat × RecKind)) (rs : List TlvRec)
    (hinc : IncFrom 0 rs) (hwf : ∀ r ∈ rs, r.WF) (hk : ∀ r ∈ rs, known.lookup r.typ = some r.kind) :
    decodeStream known (encStream rs) = .ok (rs.map fun r => (r.typ, some r.val)) [] :=
  decodeStreamAux_enc known rs _ 0 (Nat.lt_succ_self _) hinc hwf hk

/-- `wire.MsgTx`: Deserialize inverts Serialize; in particular the decoder's 4 MiB slab never overflows (no panic) -/
theorem tx_roundtrip (t : Tx) (rest : Bytes) (h : t.WF) : readTx (encTx t ++ rest) = .ok t rest :=
  readTx_rt h rest

/-- **Every well-formed account (all states, all versions) serialises without error and deserialises to itself.** -/
theorem account_roundtrip (a : Account) (rest : Bytes) (h : a.WF) :
    ∃ b, serializeAccount a = .ok b ∧ deserializeAccount (b ++ rest) = .ok a rest :=
  let ⟨b, hb, hr⟩ := account_rt a h
  ⟨b, hb, hr rest⟩

/-- **Every well-formed ask or bid – any version, any combination of optional terms – is read back from
its order bucket (keys `order`, `order-min-units-match`, `order-tlv`, `order-tier`) exactly as written.** -/
theorem order_roundtrip (o : Order) (h : o.WF) : loadOrder o.kit.nonce (storeOrder o) = .ok o [] := by
  unfold loadOrder storeOrder
  simp only [(readU64_rt h.minUnits).whole, (order_base_rt o h.kit).whole, Option.getD_some,
    order_tlv_rt_baseProj o h]
  cases o with
  | ask k a c => simp only [Order.readBack, Order.setKit, Order.kit]
  | bid k t s tk u z =>
    simp only [(readU32_rt h.tier).whole, Order.readBack, Order.setKit, Order.kit]

theorem order_base_roundtrip (o : Order) (rest : Bytes) (h : o.kit.WF) :
    deserializeOrder o.kit.nonce (serializeOrder o ++ rest) = .ok o.baseProj rest :=
  order_base_rt o h rest

/-- the sidecar bid template goes through the same four keys (`storeBidTemplate` / `readBidTemplate`) -/
theorem bidTemplate_roundtrip (db : DB) (bid : Order) (h : bid.WF) :
    (db.putBidTemplate bid).bidTemplate bid.kit.nonce = .ok bid [] := by
  simp [DB.putBidTemplate, DB.bidTemplate, Bucket.put, order_roundtrip bid h]

/-- (R) every expression of the snapshot serialisers' element lists is known to `snapTbl`; the nested list helpers
write / read the same count-prefixed shapes -/
theorem snapshot_lists_agree :
    (elemList "serializeLocalBatchSnapshot" 0).all (fun n => (snapTbl n).isSome) = true ∧
    (elemList "deserializeLocalBatchSnapshot" 0).all (fun n => (snapTbl n).isSome) = true ∧
    Store.elemCalls.lookup "serializeAccounts" = some [("W", ["uint32(len(accounts))"]), ("W", ["key"])] ∧
    Store.elemCalls.lookup "deserializeAccounts" = some [("R", ["numAccounts"]), ("R", ["key"])] ∧
    Store.elemCalls.lookup "serializeOrders" = some [("W", ["uint32(len(orders))"]), ("W", ["nonce[:]"])] ∧
    Store.elemCalls.lookup "deserializeOrders" = some [("R", ["numOrders"]), ("R", ["nonce"])] ∧
    Store.elemCalls.lookup "serializeMatchedOrder" = some [("W", ["ourNonce[:]", "orderNonce[:]"]),
      ("W", ["m.MultiSigKey", "m.NodeKey", "m.NodeAddrs", "uint64(m.UnitsFilled)"])] ∧
    Store.elemCalls.lookup "deserializeMatchedOrder" = some [("R", ["ourNonce", "theirNonce"]),
      ("R", ["m.MultiSigKey", "m.NodeKey", "m.NodeAddrs", "m.UnitsFilled"])] ∧
    (elemList "serializeLocalBatchSnapshot" 3, elemList "deserializeLocalBatchSnapshot" 3) =
      (["duration", "uint32(price)"], ["duration", "price"]) := by decide +kernel

/-- **The snapshot blob round-trips up to the base-field projection of every nested order**; all else exactly. -/
theorem snapshot_roundtrip (s : Snapshot) (h : s.WF) :
    ∃ b, serializeSnapshot s = .ok b ∧ deserializeSnapshot b = .ok s.proj [] :=
  let ⟨b, hb, hr⟩ := snapshot_rt s h
  ⟨b, hb, hr.whole⟩

/-- what the property promises for a snapshot: only the other traders' (matched) orders are reduced -/
def Snapshot.projMatched (s : Snapshot) : Snapshot :=
  { s with matched := s.matched.map fun m => { m with order := m.order.baseProj } }

theorem completeOrders_rt (orders : Bucket OrderRec) (os : List (Bytes × Order))
    (h : ∀ p ∈ os, p.2.WF ∧ orders p.1 = some (storeOrder p.2)) :
    completeOrders orders (os.map fun (n, o) => (n, o.baseProj)) = .ok os [] := by
  induction os with
  | nil => rfl
  | cons p os ih =>
    obtain ⟨n, o⟩ := p
    obtain ⟨h1, h2⟩ := h (n, o) (List.mem_cons_self)
    simp only [List.map_cons, completeOrders, h2, completeOrder_rt o h1,
      ih (fun q hq => h q (List.mem_cons_of_mem _ hq))]

/-- **Database read path (pending and finalized, repaired code):** a snapshot whose own orders are in the orders
bucket as `SubmitOrder` wrote them is read back with its own orders complete and only the other traders' orders
reduced to base fields. -/
theorem snapshot_db_roundtrip (db : DB) (s : Snapshot) (h : s.WF)
    (hown : ∀ p ∈ s.orders, p.2.WF ∧ db.orders p.1 = some (storeOrder p.2)) :
    ∃ db', db.storePending s = some db' ∧ db'.pending = .ok s.projMatched [] ∧
      ∃ db'', db'.finalize s.batchID = some db'' ∧ db''.snapshot s.batchID = .ok s.projMatched [] := by
  obtain ⟨b, hb, hd⟩ := snapshot_roundtrip s h
  have hr : readSnapshot db.orders b = .ok s.projMatched [] := by
    simp only [readSnapshot, hd, Snapshot.proj, completeOrders_rt db.orders s.orders hown]
    rfl
  refine ⟨{ db with pendingSnapshot := some b }, by simp [DB.storePending, hb], by simpa [DB.pending] using hr, ?_⟩
  refine ⟨_, rfl, ?_⟩
  simpa [DB.snapshot, Bucket.put] using hr

theorem put_get_other {V : Type} (b : Bucket V) (k k' : Bytes) (v : V) (h : k' ≠ k) : (b.put k v) k' = b k' := by
  simp [Bucket.put, h]

/-- *writing one object never alters another*, for `AddAccount` -/
theorem addAccount_effect (db : DB) (a : Account) (h : a.WF) :
    ∃ db', db.addAccount a = some db' ∧ db'.account a.traderKey.pub = .ok a [] ∧
      (∀ k, k ≠ a.traderKey.pub → db'.account k = db.account k) ∧
      db'.orders = db.orders ∧ db'.bidTemplates = db.bidTemplates ∧ db'.pendingSnapshot = db.pendingSnapshot ∧
      db'.snapshots = db.snapshots := by
  obtain ⟨b, hb, hd⟩ := account_rt a h
  refine ⟨{ db with accounts := db.accounts.put a.traderKey.pub b }, by simp [DB.addAccount, hb], ?_, ?_,
    rfl, rfl, rfl, rfl⟩
  · simp [DB.account, Bucket.put, hd.whole]
  · intro k hk
    simp [DB.account, Bucket.put, hk]

theorem putOrder_effect (db : DB) (o : Order) (h : o.WF) :
    (db.putOrder o).getOrder o.kit.nonce = .ok o [] ∧
    (∀ n, n ≠ o.kit.nonce → (db.putOrder o).getOrder n = db.getOrder n) ∧
    (∀ k, (db.putOrder o).account k = db.account k) := by
  refine ⟨by simp [DB.putOrder, DB.getOrder, Bucket.put, order_roundtrip o h], ?_, fun _ => rfl⟩
  intro n hn
  simp [DB.putOrder, DB.getOrder, Bucket.put, hn]

/-- **`copyOrder` (the order loop of `MarkBatchComplete`) is the identity on what `SubmitOrder`/`updateOrder`
wrote**, although it re-serialises the TLV stream from the decoded order. An ask keeps whatever `order-tier` the
destination has (`hd`: none). -/
theorem copyOrder_id (o : Order) (h : o.WF) (dstTier : Option Bytes) (hd : o.isBid = false → dstTier = none) :
    copyOrderRec o.kit.nonce (storeOrder o) dstTier = .ok (storeOrder o) [] := by
  unfold copyOrderRec storeOrder
  simp only [(readU64_rt h.minUnits).whole, (order_base_rt o h.kit).whole, Option.getD_some,
    order_tlv_rt_baseProj o h, serializeOrderTlvData_readBack]
  cases o with
  | ask k a c => simp [Order.readBack, Order.isBid, hd rfl]
  | bid k t s tk u z => simp [Order.readBack, Order.isBid, (readU32_rt h.tier).whole]

theorem addAccounts_effect (as : List Account) : ∀ (db : DB), (∀ a ∈ as, a.WF) →
    (as.map (·.traderKey.pub)).Nodup →
    ∃ db', db.addAccounts as = some db' ∧
      (∀ a ∈ as, db'.account a.traderKey.pub = .ok a []) ∧
      (∀ k, k ∉ as.map (·.traderKey.pub) → db'.account k = db.account k) ∧
      db'.orders = db.orders ∧ db'.bidTemplates = db.bidTemplates ∧
      db'.pendingSnapshot = db.pendingSnapshot ∧ db'.snapshots = db.snapshots := by
  induction as with
  | nil => intro db _ _; exact ⟨db, rfl, by simp, by simp, rfl, rfl, rfl, rfl⟩
  | cons a as ih =>
    intro db hwf hnd
    simp only [List.map_cons, List.nodup_cons] at hnd
    obtain ⟨db1, h1, hsame, hother, ho, hb, hp, hs⟩ := addAccount_effect db a (hwf a (List.mem_cons_self))
    obtain ⟨db2, h2, hall, hrest, ho2, hb2, hp2, hs2⟩ :=
      ih db1 (fun x hx => hwf x (List.mem_cons_of_mem _ hx)) hnd.2
    refine ⟨db2, by simp [DB.addAccounts, h1, h2], ?_, ?_, by rw [ho2, ho], by rw [hb2, hb], by rw [hp2, hp],
      by rw [hs2, hs]⟩
    · intro x hx
      rcases List.mem_cons.mp hx with rfl | hx
      · rw [hrest _ hnd.1, hsame]
      · exact hall x hx
    · intro k hk
      simp only [List.map_cons, List.mem_cons, not_or] at hk
      rw [hrest k hk.2, hother k hk.1]

theorem putOrders_effect (os : List Order) : ∀ (db : DB), (∀ o ∈ os, o.WF) →
    (os.map (·.kit.nonce)).Nodup →
    (∀ o ∈ os, (db.putOrders os).getOrder o.kit.nonce = .ok o []) ∧
    (∀ n, n ∉ os.map (·.kit.nonce) → (db.putOrders os).getOrder n = db.getOrder n) ∧
    (∀ k, (db.putOrders os).account k = db.account k) := by
  induction os with
  | nil => intro db _ _; exact ⟨by simp, by simp [DB.putOrders], fun _ => rfl⟩
  | cons o os ih =>
    intro db hwf hnd
    simp only [List.map_cons, List.nodup_cons] at hnd
    obtain ⟨hsame, hother, hacct⟩ := putOrder_effect db o (hwf o (List.mem_cons_self))
    obtain ⟨hall, hrest, hacct2⟩ := ih (db.putOrder o) (fun x hx => hwf x (List.mem_cons_of_mem _ hx)) hnd.2
    refine ⟨?_, ?_, fun k => by rw [DB.putOrders, hacct2 k, hacct k]⟩
    · intro x hx
      rcases List.mem_cons.mp hx with rfl | hx
      · rw [DB.putOrders, hrest _ hnd.1, hsame]
      · exact hall x hx
    · intro n hn
      simp only [List.map_cons, List.mem_cons, not_or] at hn
      rw [DB.putOrders, hrest n hn.2, hother n hn.1]

/-- (R) every writer of an order bucket stores the keys `order`, `order-min-units-match` and `order-tlv`
unconditionally and `order-tier` under at most the is-a-bid type assertion: the shape of the model's `storeOrder`, so
the round trips speak about what these writers store. -/
theorem order_keys_written :
    (Store.orderKeyWrites.map (·.1)) = ["storeBidTemplate", "SubmitOrder", "updateOrder", "copyOrder"] ∧
    (Store.orderKeyWrites.all fun (_, cs) =>
      cs.length == 4 &&
      (["storeOrderTX", "storeOrderMinUnitsMatchTX", "storeOrderTlvTX"].all fun k => cs.contains (k, [])) &&
      (cs.all fun (k, g) => k != "storeOrderMinNoderTierTX" ||
        [[], ["is-bid"]].contains g)) = true := by
  decide +kernel

/-- (R) transaction discipline of clientdb's `*DB` methods: no decode call sits in a method body outside a function
literal, so bbolt's memory-mapped slices are only decoded inside the transaction closure; the read methods the
property observes all open a transaction. -/
theorem decode_inside_tx :
    Store.decodeOutsideTx = [] ∧
    (["Account", "Accounts", "GetOrder", "GetOrders", "PendingBatchSnapshot", "GetLocalBatchSnapshot",
      "GetLocalBatchSnapshots", "SidecarBidTemplate"].all fun m => Store.dbTxMethods.contains m) = true := by
  decide +kernel

/-- **re-proposal**: storing a pending snapshot again (same batch id or not) replaces the previous one -/
theorem storePending_last_wins (db : DB) (s1 s2 : Snapshot) (h1 : s1.WF) (h2 : s2.WF)
    (hown : ∀ p ∈ s2.orders, p.2.WF ∧ db.orders p.1 = some (storeOrder p.2)) :
    ∃ db1 db2, db.storePending s1 = some db1 ∧ db1.storePending s2 = some db2 ∧
      db2.pending = .ok s2.projMatched [] := by
  obtain ⟨b1, hb1, _⟩ := snapshot_roundtrip s1 h1
  obtain ⟨db2, hs2, hp2, _⟩ := snapshot_db_roundtrip { db with pendingSnapshot := some b1 } s2 h2 hown
  exact ⟨{ db with pendingSnapshot := some b1 }, db2, by simp [DB.storePending, hb1], hs2, hp2⟩

/-- the base encoding really loses terms: a concrete well-formed ask whose projection differs -/
@[reducible] def witnessAsk : Order :=
  .ask { Kit.new (List.replicate 32 7) with minUnitsMatch := 3, channelType := 1, isPublic := true } 1 0

/-- **`PendingBatchSnapshot` before the repair (the blob alone) violates the property** whenever the snapshot holds
an own order with a term outside the base fields (`hne`; `exSnap` below is such a snapshot): it returns `s.proj`. -/
theorem C10_pending_blob_only_false (db : DB) (s : Snapshot) (h : s.WF) (hne : s.proj ≠ s.projMatched) :
    ∃ db', db.storePending s = some db' ∧ db'.pendingUnrepaired ≠ .ok s.projMatched [] := by
  obtain ⟨b, hb, hd⟩ := snapshot_roundtrip s h
  refine ⟨{ db with pendingSnapshot := some b }, by simp [DB.storePending, hb], ?_⟩
  simp only [DB.pendingUnrepaired, hd]
  intro heq
  injection heq with heq _
  exact hne heq

/-! Non-vacuity: the well-formedness predicates are inhabited by non-trivial values. -/

@[reducible] def exKey : Bytes :=
  [0x02, 0x18, 0x7d, 0x1a, 0x0e, 0x30, 0xf4, 0xe5, 0x01, 0x6f, 0xc1, 0x13, 0x73, 0x63, 0xee, 0x9e, 0x7e,
   0xd5, 0xdd, 0xe1, 0xe6, 0xc5, 0x0f, 0x36, 0x74, 0x22, 0x33, 0x6d, 0xf7, 0xa1, 0x08, 0xb7, 0x16]

@[reducible] def exTx : Tx :=
  ⟨2, [⟨List.replicate 32 1, 0, [], 0xffffffff, [[0x30, 0x45], [0x02]]⟩], [⟨100000, [0x00, 0x14, 0xaa]⟩], 0⟩

@[reducible] def exAcct : Account :=
  ⟨100000000, 1337, ⟨⟨220, 0⟩, exKey⟩, exKey, exKey, List.replicate 32 0x73, 3, 1, ⟨List.replicate 32 9, 1⟩,
   some exTx, 1⟩

@[reducible] def exKit0 : Kit := { Kit.new (List.replicate 32 5) with amt := 500000, units := 5, minUnitsMatch := 2 }
@[reducible] def exKit : Kit := { exKit0 with allowedNodeIDs := [List.replicate 33 4], isPublic := true, auctionType := 1 }
/-- a sidecar ticket as the real `sidecar.SerializeTicket` wrote it (taken from a harness run) -/
@[reducible] def exTicket : Bytes :=
  [1, 8, 11, 75, 41, 31, 225, 97, 108, 236, 2, 1, 0, 3, 1, 6, 10, 64, 11, 8, 0, 0, 0, 72, 20, 183, 31, 123, 12, 8, 0, 0, 0, 0, 61, 169, 66, 67, 13, 4, 158, 148, 221, 239, 14, 33, 3, 163, 34, 106, 206, 203, 155, 20, 207, 46, 36, 155, 125, 84, 127, 201, 122, 148, 35, 119, 172, 145, 214, 29, 125, 224, 69, 115, 204, 130, 89, 85, 70, 16, 1, 0]
@[reducible] def exBid : Order := .bid exKit 2 20000 (some exTicket) true false

@[reducible] def exMatch : Match :=
  ⟨List.replicate 32 5, witnessAsk, List.replicate 33 2, List.replicate 33 3,
   [Addr.tcp4 [18, 52, 86, 120] 8080, Addr.onionV3 (List.replicate 35 7) 9735], 19⟩

@[reducible] def exSnap : Snapshot :=
  { version := 1, batchID := exKey, clearingPrices := [(2016, 1234)], feeBase := 1, feeRate := 1000,
    batchTx := exTx, batchTxFeeRate := 253, accounts := [(exKey, exAcct)],
    orders := [(List.replicate 32 5, exBid)],
    matched := [exMatch] }

theorem exKey_valid : validPubKey exKey = true := by decide +kernel
set_option maxRecDepth 100000 in
example : exTx.WF := by decide +kernel
set_option maxRecDepth 100000 in
example : exAcct.WF := by decide +kernel
theorem exTicket_canonical : ticketCanonical exTicket = true := by decide +kernel
set_option maxRecDepth 100000 in
example : exBid.WF := ⟨by decide +kernel, by decide, by decide, by decide, exTicket_canonical⟩
example : witnessAsk.WF ∧ witnessAsk.baseProj ≠ witnessAsk := by decide +kernel
set_option maxRecDepth 100000 in
example : exSnap.WF := by decide +kernel
set_option maxRecDepth 100000 in
example : exSnap.proj ≠ exSnap.projMatched := by
  intro h
  have : (exSnap.proj.orders.map fun p => p.2.kit.minUnitsMatch) =
      (exSnap.projMatched.orders.map fun p => p.2.kit.minUnitsMatch) := by rw [h]
  exact absurd this (by decide)

/-- (R) the order and account extra-data streams are written with `Stream.Encode` and read with
`Stream.DecodeWithParsedTypes`, not the `…P2P` variants, which refuse a record longer than 65535 bytes (an allow / deny
list of 1986 node ids needs 65538, and neither the writer nor the RPC layer caps it). So the model's decoder is the
uncapped one (`C10Tlv`, `p2p = false`) and the round trips need no length hypothesis on the optional terms. -/
theorem C10_stored_streams_uncapped :
    Store.tlvStreamCalls.lookup "serializeOrderTlvData" = some ["Encode"] ∧
    Store.tlvStreamCalls.lookup "deserializeOrderTlvData" = some ["DecodeWithParsedTypes"] ∧
    Store.tlvStreamCalls.lookup "serializeAccountTlvData" = some ["Encode"] ∧
    Store.tlvStreamCalls.lookup "deserializeAccountTlvData" = some ["DecodeWithParsedTypes"] := by
  decide +kernel

end Pool.C10
