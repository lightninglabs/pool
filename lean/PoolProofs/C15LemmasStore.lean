import PoolModel.Dec.Store
/-! The sidecar store: `get`/`put` of the bucket, and what a successful write leaves in it. -/
namespace Pool.Dec

theorem SBucket.get_put_same (b : SBucket) (k v : Bytes) : (b.put k v).get k = some v := by
  fun_induction SBucket.put b k v with
  | case4 k' v' rest k v hne _ ih => simp [SBucket.get, hne, ih]
  | _ => simp [SBucket.get]

theorem SBucket.get_put_other (b : SBucket) (k k2 v : Bytes) (h : k2 ≠ k) : (b.put k v).get k2 = b.get k2 := by
  fun_induction SBucket.put b k v with
  | case4 k' v' rest k v _ _ ih => simp [SBucket.get, ih h]
  | _ => simp [SBucket.get, h.symm]

theorem storeSidecar_of_write {b b' : SBucket} {t : Ticket} {k : Bytes} (hk : t.offer.signPubKey = some k)
    (hw : updateSidecar b t = .ok b' ∨ addSidecar b t = .ok b') : storeSidecar b (t.id ++ k) t = .ok b' := by
  simp only [updateSidecar, addSidecar, hk, getSidecarKey] at hw
  generalize b.get (t.id ++ k) = stored at hw
  cases stored with
  | none => simpa using hw
  | some v => by_cases hv : v = [] <;> simpa [hv] using hw

theorem put_of_storeSidecar {b b' : SBucket} {t : Ticket} {key bytes : Bytes} (hs : serializeTicket t = .ok bytes)
    (h : storeSidecar b key t = .ok b') : b' = b.put key bytes := by
  rw [storeSidecar, hs] at h
  cases h; rfl

end Pool.Dec
