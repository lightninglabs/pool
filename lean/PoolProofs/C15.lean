import PoolProofs.C15LemmasInst
import PoolProofs.C15LemmasStr
import PoolProofs.C10
import PoolModel.Generated.C19State
import PoolProofs.C15LemmasStore
/-! C15: sidecar ticket encodings round-trip and reject damaged strings.  SHA-256 is an arbitrary function `H`
returning at least `checksumLen` bytes. -/
namespace Pool.C15
open Pool.Dec

/-- **Generic TLV round trip** of lnd's `Stream.decode` as modelled, on the bytes `encAligned` gives relative to the
decoder's record list (that a serialiser writes them is `serializeExecution_eq` … `serializeTicket_eq`, per stream):
any record list, any subset of its records present, capped and uncapped decoder, with or without the parsed-types map. -/
theorem C15_stream_roundtrip {σ : Type} (p2p : Bool) (maxAlloc : Nat) (wt : Bool) (step : Nat → Bytes → σ → σ)
    (rs : List (Rec σ)) (vs : List (Option Bytes)) (s : σ)
    (hinc : IncFrom 0 rs) (hgood : Good step rs vs) :
    decodeLoop p2p maxAlloc wt ((encAligned rs vs).length + 1) rs 0 (encAligned rs vs) s []
      = .ok (stepAligned step rs vs s, typesAligned rs vs) := by
  have := decodeStream_rows (p2p := p2p) (maxAlloc := maxAlloc) (wt := wt) (Nat.le_refl _) hgood.rows hinc s
  rwa [decodeStream, if_pos hinc.sortedTypes] at this

theorem C15_execution_roundtrip (cfg : Cfg) (e : Execution) (h : e.wf) :
    ∃ b, serializeExecution e = .ok b ∧ deserializeExecution cfg b = .ok e :=
  let ⟨b, hs, hd, _⟩ := execution_roundtrip cfg e h
  ⟨b, hs, hd⟩

example : Execution.wf { pendingChannelID := List.replicate 32 7 } := by unfold Execution.wf; decide

/-- with or without the order signature (zero signature ↔ absent: a present signature object must be non-zero
with low S, as a signer produces it) -/
theorem C15_order_roundtrip (cfg : Cfg) (o : Order) (h : o.wf) :
    ∃ b, serializeOrder o = .ok b ∧ deserializeOrder cfg b = .ok o :=
  let ⟨b, hs, hd, _⟩ := order_roundtrip cfg o h
  ⟨b, hs, hd⟩

example : Order.wf { bidNonce := List.replicate 32 1, sigOrderDigest := some ⟨5, 9⟩ } :=
  ⟨by decide, by intro g hg; cases hg; decide⟩
example : Order.wf { bidNonce := List.replicate 32 0, sigOrderDigest := none } :=
  ⟨by decide, by intro g hg; cases hg⟩

/-- a high-S signature object does NOT round-trip: `ESig` writes the low-S twin (why `Sig.wf` asks for low S) -/
theorem C15_highS_sig_normalised :
    parseSig (sigBytes ⟨1, secpN - 1⟩) = some ⟨1, 1⟩ := by decide

/-- (regenerated facts) the decoder record lists of the model are those of the `tlv.NewStream` /
`decodeBytes` calls in the current sidecar/tlv.go, in the same order and with the same decoder kinds,
and the serialisers write the same set of types. -/
theorem C15_record_tables_match_source :
    (ticketRecs ⟨true, true, false, 0⟩).map (·.typ) = Pool.Gen.C15.DeserializeTicketTypes ∧
    offerRecs.map (·.typ) = Pool.Gen.C15.deserializeOfferTypes ∧
    recipientRecs.map (·.typ) = Pool.Gen.C15.deserializeRecipientTypes ∧
    orderRecs.map (·.typ) = Pool.Gen.C15.deserializeOrderTypes ∧
    executionRecs.map (·.typ) = Pool.Gen.C15.deserializeExecutionTypes ∧
    Pool.Gen.C15.SerializeTicketTypes = Pool.Gen.C15.DeserializeTicketTypes ∧
    (∀ t ∈ Pool.Gen.C15.serializeOfferTypes, t ∈ Pool.Gen.C15.deserializeOfferTypes) ∧
    Pool.Gen.C15.serializeRecipientTypes = Pool.Gen.C15.deserializeRecipientTypes ∧
    Pool.Gen.C15.serializeOrderTypes = Pool.Gen.C15.deserializeOrderTypes ∧
    Pool.Gen.C15.serializeExecutionTypes = Pool.Gen.C15.deserializeExecutionTypes ∧
    Pool.Gen.C15.DeserializeTicketKinds = ["static:8:EBytes8:DBytes8", "prim", "prim", "prim", "prim", "prim", "prim"] ∧
    Pool.Gen.C15.deserializeOfferKinds = ["prim", "prim", "prim", "prim", "static:64:ESig:DSig", "prim", "prim", "prim"] ∧
    Pool.Gen.C15.deserializeRecipientKinds = ["prim", "prim", "prim"] ∧
    Pool.Gen.C15.deserializeOrderKinds = ["prim", "static:64:ESig:DSig"] ∧
    Pool.Gen.C15.deserializeExecutionKinds = ["prim"] ∧
    Pool.Gen.C15.checksumLen = 4 ∧ prefixBytes.length = 7 ∧ encVersion = [0] := by decide +kernel

/-- (regenerated fact) The model treats `EncodeToString`, `SerializeTicket`, `DecodeString`,
`DeserializeTicket` as functions of their argument.  In the source, the intra-package call graph of these
four functions (incl. the encoders / decoders passed as values) mentions exactly two package-level
variables – the constants `encodingVersion` and `ZeroSignature` – and writes none: no pooled buffer, cache
or other shared mutable state that would make the result depend on other calls (sequential or concurrent). -/
theorem C15_codec_touches_no_mutable_state :
    Pool.Gen.C19.sidecarCodecVars = ["ZeroSignature : [64]byte", "encodingVersion : []byte"] ∧
    Pool.Gen.C19.parserStateWrites = [] ∧
    (∀ f ∈ ["EncodeToString", "SerializeTicket", "DecodeString", "DeserializeTicket", "serializeOffer",
             "serializeRecipient", "serializeOrder", "serializeExecution", "encodeBytes", "ESig", "EBytes8"],
        f ∈ Pool.Gen.C19.sidecarCodecCallGraph) := by decide +kernel

/-- **Exact acceptance condition of `DecodeString`.**  The version byte `raw[0]` is NOT examined. -/
theorem C15_accept_characterisation (H : Bytes → Bytes) (hH : ∀ x, 4 ≤ (H x).length) (cfg : Cfg) (s : Bytes)
    (t : Ticket) :
    decodeString H cfg s = .ok t ↔
      7 ≤ s.length ∧ s.take 7 = prefixBytes ∧
      ∃ raw, b58Decode cfg.maxAlloc (s.drop 7) = .ok raw ∧ 5 ≤ raw.length ∧
        checksumOf raw = chk H (payloadOf raw) ∧ deserializeTicket cfg (payloadOf raw) = .ok t := by
  simp only [decodeString_eq H hH cfg s, Outcome.ite_err_eq_ok, Outcome.bind_eq_ok, Nat.not_lt, ne_eq, Decidable.not_not]
  exact ⟨fun ⟨hl, raw, hraw, h5, hp, hc, hd⟩ => ⟨hl, hp, raw, hraw, h5, hc, hd⟩,
    fun ⟨hl, hp, raw, hraw, h5, hc, hd⟩ => ⟨hl, raw, hraw, h5, hp, hc, hd⟩⟩

/-- (regenerated facts) the two comparisons of `DecodeString` that the model mirrors as exact
(in)equalities are exact in the current codec.go.  The extractor classifies them by meaning: the prefix test
is "exact" for `x != sidecarPrefix`, `!(x == sidecarPrefix)` or `!strings.HasPrefix(s, sidecarPrefix)` with
the constant itself; the checksum test is "exact" for a negated `bytes.Equal` / `bytes.Compare(..) != 0`
whose operands are sliced at most up to `checksumLen`.  A source that compares in any other way
(case-insensitively, on a shorter slice, not at all) breaks this obligation, and with it the claim that
`C15_wrong_prefix_rejected` / `C15_accept_characterisation` speak about the code. -/
theorem C15_source_comparisons_exact :
    Pool.Gen.C15.decodeStringPrefixCompare = "exact" ∧ Pool.Gen.C15.decodeStringChecksumCompare = "exact" := by
  decide

theorem C15_wrong_prefix_rejected (H : Bytes → Bytes) (hH : ∀ x, 4 ≤ (H x).length) (cfg : Cfg) (s : Bytes)
    (h : s.take 7 ≠ prefixBytes) (t : Ticket) : decodeString H cfg s ≠ .ok t := by
  intro hd
  exact h ((C15_accept_characterisation H hH cfg s t).1 hd).2.1

example : ([0x53, 0x69, 0x64, 0x65, 0x63, 0x61, 0x72, 0x31] : Bytes).take 7 ≠ prefixBytes := by decide

/-- Altering only checksum bytes is always rejected: two accepted strings with the same payload carry
the same checksum. -/
theorem C15_checksum_alteration_rejected (H : Bytes → Bytes) (hH : ∀ x, 4 ≤ (H x).length) (cfg : Cfg)
    (s s' raw raw' : Bytes) (t t' : Ticket)
    (h : decodeString H cfg s = .ok t) (h' : decodeString H cfg s' = .ok t')
    (hr : b58Decode cfg.maxAlloc (s.drop 7) = .ok raw) (hr' : b58Decode cfg.maxAlloc (s'.drop 7) = .ok raw')
    (hp : payloadOf raw' = payloadOf raw) : checksumOf raw' = checksumOf raw ∧ t' = t := by
  obtain ⟨hc, hd⟩ := accepted_raw H hH cfg h hr
  obtain ⟨hc', hd'⟩ := accepted_raw H hH cfg h' hr'
  rw [hp] at hc' hd'
  refine ⟨by rw [hc, hc'], ?_⟩
  rw [hd] at hd'; cases hd'; rfl

/-- Altering the payload (checksum bytes kept) is accepted ONLY on a collision of the 4-byte truncated
hash: stated exactly, not assumed away. -/
theorem C15_payload_alteration_needs_collision (H : Bytes → Bytes) (hH : ∀ x, 4 ≤ (H x).length) (cfg : Cfg)
    (s s' raw raw' : Bytes) (t t' : Ticket)
    (h : decodeString H cfg s = .ok t) (h' : decodeString H cfg s' = .ok t')
    (hr : b58Decode cfg.maxAlloc (s.drop 7) = .ok raw) (hr' : b58Decode cfg.maxAlloc (s'.drop 7) = .ok raw')
    (hc : checksumOf raw' = checksumOf raw) : chk H (payloadOf raw') = chk H (payloadOf raw) := by
  rw [← (accepted_raw H hH cfg h hr).1, ← (accepted_raw H hH cfg h' hr').1, hc]

/-- an alteration that is accepted as a DIFFERENT ticket produced a valid (payload, checksum) pair -/
theorem C15_different_ticket_needs_valid_pair (H : Bytes → Bytes) (hH : ∀ x, 4 ≤ (H x).length) (cfg : Cfg)
    (s s' raw raw' : Bytes) (t t' : Ticket)
    (h : decodeString H cfg s = .ok t) (h' : decodeString H cfg s' = .ok t') (hne : t' ≠ t)
    (hr : b58Decode cfg.maxAlloc (s.drop 7) = .ok raw) (hr' : b58Decode cfg.maxAlloc (s'.drop 7) = .ok raw') :
    payloadOf raw' ≠ payloadOf raw ∧ checksumOf raw' = chk H (payloadOf raw') :=
  ⟨fun hp => hne (C15_checksum_alteration_rejected H hH cfg s s' raw raw' t t' h h' hr hr' hp).2,
    (accepted_raw H hH cfg h' hr').1⟩

/-- **ticket_roundtrip**: any state and version, any subset of recipient / order / execution, optional keys and
signatures, all flag combinations (`Ticket.wf` says what a well-formed ticket is). -/
theorem C15_ticket_roundtrip (cfg : Cfg) (hm : 1000 ≤ cfg.maxAlloc) (t : Ticket) (h : t.wf) :
    ∃ b, serializeTicket t = .ok b ∧ deserializeTicket cfg b = .ok t :=
  ⟨_, ticket_roundtrip cfg hm t h⟩

/-- the secp256k1 generator, compressed: a key `ParsePubKey` accepts and returns unchanged -/
def gKey : Bytes := (2 : UInt8) :: toBE 32 0x79BE667EF9DCBBAC55A06295CE870B07029BFCDB2DCE28D959F2815B16F81798

theorem gKey_wf : keyWF gKey := ⟨by simp [gKey, toBE_length], by decide +kernel⟩

/-- a ticket with recipient, order, execution and both signatures, used for non-vacuity -/
def exampleTicket : Ticket :=
  { id := List.replicate 8 1, version := 1, state := 4,
    offer := { capacity := 1000000, pushAmt := 5, leaseDuration := 2016, signPubKey := some gKey,
               sigOfferDigest := some ⟨5, 9⟩, auto := true, unannounced := true },
    recipient := some { nodePubKey := some gKey, multiSigKeyIndex := 7 },
    order := some { bidNonce := List.replicate 32 3, sigOrderDigest := some ⟨1, 1⟩ },
    execution := some { pendingChannelID := List.replicate 32 9 } }

theorem exampleTicket_wf : exampleTicket.wf := by
  simp [Ticket.wf, Offer.wf, Recipient.wf, Order.wf, Execution.wf, exampleTicket, gKey_wf]
  decide

example : ∃ b, serializeTicket exampleTicket = .ok b ∧
    deserializeTicket { p2pTop := true, p2pSub := true, maxAlloc := 65535 } b = .ok exampleTicket :=
  C15_ticket_roundtrip _ (by decide) _ exampleTicket_wf

theorem C15_base58_roundtrip (m : Nat) (b : Bytes) (hm : b.length ≤ m) : b58Decode m (b58Encode b) = .ok b :=
  b58_roundtrip m b hm

example : b58Decode 10 (b58Encode [0, 0, 1, 2, 3]) = .ok [0, 0, 1, 2, 3] := C15_base58_roundtrip 10 _ (by decide)

theorem payload_split (v : UInt8) (ser c : Bytes) (hc : c.length = 4) :
    payloadOf (v :: (ser ++ c)) = ser ∧ checksumOf (v :: (ser ++ c)) = c := by
  unfold payloadOf checksumOf
  have hl : (v :: (ser ++ c)).length - 4 = ser.length + 1 := by simp; omega
  rw [hl]
  constructor
  · rw [List.take_succ_cons, List.take_left' rfl]; rfl
  · rw [List.drop_succ_cons, List.drop_left' rfl]

theorem C15_string_roundtrip (H : Bytes → Bytes) (hH : ∀ x, 4 ≤ (H x).length) (cfg : Cfg)
    (hm : 65535 ≤ cfg.maxAlloc) (t : Ticket) (h : t.wf) :
    ∃ s, encodeToString H t = .ok s ∧ decodeString H cfg s = .ok t := by
  let ser := encAligned (ticketRecs cfg) (ticketVals t)
  obtain ⟨hdes, hlen⟩ : deserializeTicket cfg ser = .ok t ∧ ser.length ≤ 7126 := ticket_rt cfg (by omega) t h
  let c := (H (checksumInput ser)).take 4
  have hc : c.length = 4 := by simp only [c, List.length_take]; exact Nat.min_eq_left (hH _)
  refine ⟨prefixBytes ++ b58Encode ((0 : UInt8) :: (ser ++ c)), ?_, ?_⟩
  · unfold encodeToString
    rw [serializeTicket_eq cfg t]
    simp only
    rw [slice_ok _ 0 Pool.Gen.C15.checksumLen ⟨Nat.zero_le _, hH _⟩]
    rfl
  · rw [C15_accept_characterisation H hH cfg _ t]
    have hp : prefixBytes.length = 7 := prefix_len
    refine ⟨by simp only [List.length_append]; omega, List.take_left' hp, (0 : UInt8) :: (ser ++ c), ?_, ?_, ?_, ?_⟩
    · rw [List.drop_left' hp]
      apply C15_base58_roundtrip
      simp only [List.length_cons, List.length_append, hc]
      omega
    · simp only [List.length_cons, List.length_append, hc]; omega
    · rw [(payload_split 0 ser c hc).1, (payload_split 0 ser c hc).2]; rfl
    · rw [(payload_split 0 ser c hc).1]; exact hdes

/-! The trader database model of property C10 (`Pool.C10`, tag store) keeps the ticket of a bid as its serialised
bytes, decodes them with THIS model when the order is loaded (`Pool.C10.readTicket` = `deserializeTicket (repoCfg …)`
then `serializeTicket`), and asks in `Order.WF` that the blob be canonical (`ticketCanonical`).  `ticket_roundtrip`
discharges exactly that, so the whole order bucket reads back as written (`Pool.C10.order_roundtrip`). -/

/-- **embedded_in_bid_roundtrip**: store any well-formed bid carrying the serialisation of a well-formed
ticket (clientdb `SubmitOrder` / `updateOrder`: keys `order`, `order-min-units-match`, `order-tlv`,
`order-tier`), load it (`GetOrder`): the bid comes back with exactly that blob, and the blob
deserialises to the same ticket. -/
theorem C15_embedded_in_bid_roundtrip (t : Ticket) (h : t.wf)
    (k : Pool.C10.Kit) (tier scb : Nat) (u z : Bool)
    (hk : k.WF) (ht : Pool.C10.WFu32 tier) (hs : Pool.C10.WFu64 scb) :
    ∃ blob, serializeTicket t = .ok blob ∧
      Pool.C10.loadOrder k.nonce (Pool.C10.storeOrder (.bid k tier scb (some blob) u z))
        = .ok (.bid k tier scb (some blob) u z) [] ∧
      deserializeTicket (repoCfg Pool.C10.maxAlloc) blob = .ok t := by
  have hm : 1000 ≤ (repoCfg Pool.C10.maxAlloc).maxAlloc := by
    simp [repoCfg, Pool.C10.maxAlloc]
  have hser := serializeTicket_eq (repoCfg Pool.C10.maxAlloc) t
  obtain ⟨hdes, hlen⟩ := ticket_rt (repoCfg Pool.C10.maxAlloc) hm t h
  -- the blob is canonical: it decodes to `t`, and `t` serialises to the blob again
  have hwf : (Pool.C10.Order.bid k tier scb
      (some (encAligned (ticketRecs (repoCfg Pool.C10.maxAlloc)) (ticketVals t))) u z).WF :=
    ⟨hk, ht, hs, by omega, by simp [Pool.C10.ticketCanonical, Pool.C10.readTicket, hdes, hser]⟩
  exact ⟨_, hser, Pool.C10.order_roundtrip _ hwf, hdes⟩

/-- **Read after write** (the ticket store of clientdb/sidecar.go): whatever was stored under the key before – a
ticket with more parts, fewer parts, another state – after a successful `UpdateSidecar t` (or `AddSidecar t`) of a
well-formed ticket, `Sidecar(t.ID, t.Offer.SignPubKey)` returns exactly `t`; every other key is untouched. -/
theorem C15_store_read_after_write (cfg : Cfg) (hm : 1000 ≤ cfg.maxAlloc) (b b' : SBucket) (t : Ticket) (h : t.wf)
    (k : Bytes) (hk : t.offer.signPubKey = some k)
    (hw : updateSidecar b t = .ok b' ∨ addSidecar b t = .ok b') :
    sidecarGet cfg b' t.id (some k) = .ok t ∧ ∀ key', key' ≠ t.id ++ k → b'.get key' = b.get key' := by
  obtain ⟨hser, hdes⟩ := ticket_roundtrip cfg hm t h
  cases put_of_storeSidecar hser (storeSidecar_of_write hk hw)
  exact ⟨by simp only [sidecarGet, getSidecarKey, readSidecar, SBucket.get_put_same, hdes],
    fun key' hne => SBucket.get_put_other _ _ _ _ hne⟩

/-- `AddSidecarWithBid`: what is read back is the ticket with its order part replaced by the bid's nonce (a later
`UpdateSidecar`, also one into a terminal state, which first drops the bid template, is `C15_store_read_after_write`). -/
theorem C15_store_add_with_bid (cfg : Cfg) (hm : 1000 ≤ cfg.maxAlloc) (b b' : SBucket) (t : Ticket) (h : t.wf)
    (k : Bytes) (hk : t.offer.signPubKey = some k) (n : Bytes) (hn : n.length = 32)
    (hw : addSidecarWithBid b t n = .ok b') :
    sidecarGet cfg b' t.id (some k) = .ok { t with order := some { bidNonce := n, sigOrderDigest := none } } := by
  have hwf : ({ t with order := some { bidNonce := n, sigOrderDigest := none } } : Ticket).wf := by
    obtain ⟨h1, h2, h3, h4, h5, _, h7⟩ := h
    refine ⟨h1, h2, h3, h4, h5, ?_, h7⟩
    intro o ho
    injection ho with ho
    subst ho
    exact ⟨hn, by intro g hg; cases hg⟩
  exact (C15_store_read_after_write cfg hm b b' _ hwf k hk (Or.inr hw)).1

/-- an update needs a stored ticket -/
theorem C15_store_update_needs_entry (b : SBucket) (t : Ticket) (k : Bytes) (hk : t.offer.signPubKey = some k)
    (hn : b.get (t.id ++ k) = none) : ∃ r, updateSidecar b t = r ∧ (∀ b', r ≠ .ok b') := by
  refine ⟨_, rfl, ?_⟩
  intro b' h
  unfold updateSidecar at h
  rw [hk] at h
  simp only [getSidecarKey, hn] at h
  cases h

/-- non-vacuity: updating a stored entry with the fully populated example ticket succeeds -/
example : updateSidecar [(exampleTicket.id ++ gKey, [1])] exampleTicket =
    .ok [(exampleTicket.id ++ gKey,
          encAligned (ticketRecs { p2pTop := true, p2pSub := true, maxAlloc := 65535 }) (ticketVals exampleTicket))] := by
  have hser := (ticket_roundtrip { p2pTop := true, p2pSub := true, maxAlloc := 65535 } (by decide)
    exampleTicket exampleTicket_wf).1
  unfold updateSidecar storeSidecar
  rw [hser]
  rfl

/-- C15's round-trip and rejection clauses for the binary and the string form (the bid embedding is
`C15_embedded_in_bid_roundtrip` above). -/
def C15_full_statement : Prop :=
  (∀ (cfg : Cfg) t, Ticket.wf t → 1000 ≤ cfg.maxAlloc → ∃ b, serializeTicket t = .ok b ∧ deserializeTicket cfg b = .ok t) ∧
  (∀ m b, b.length ≤ m → b58Decode m (b58Encode b) = .ok b) ∧
  (∀ (H : Bytes → Bytes) (cfg : Cfg) t, (∀ x, 4 ≤ (H x).length) → Ticket.wf t → 65535 ≤ cfg.maxAlloc →
      ∃ s, encodeToString H t = .ok s ∧ decodeString H cfg s = .ok t) ∧
  (∀ (H : Bytes → Bytes) (cfg : Cfg) s t, (∀ x, 4 ≤ (H x).length) → s.take 7 ≠ prefixBytes → decodeString H cfg s ≠ .ok t)

theorem C15_full : C15_full_statement :=
  ⟨fun cfg t h hm => C15_ticket_roundtrip cfg hm t h, C15_base58_roundtrip,
   fun H cfg t hH h hm => C15_string_roundtrip H hH cfg hm t h,
   fun H cfg s t hH hp => C15_wrong_prefix_rejected H hH cfg s hp t⟩

end Pool.C15
