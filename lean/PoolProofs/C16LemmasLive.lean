import PoolProofs.C16Lemmas
/-! C16 liveness. The states reachable without restarts/cancellations have a closed form (`mk : NRc → Sys`; the theorems
hold of every value of `NRc`, reached or not) with a transition function of its own (`nrStep`); `applyG_mk` is the one
place where the model is run on them. Progress to both-expecting (`nrRun_progress`) and its stability (`nrStep_rank`) are
then statements about `NRc`. -/
namespace Pool.C16

def tOrd : Ticket := ⟨0, sOrdered, .valid, true, some ⟨1, .valid⟩⟩
def tExp : Ticket := ⟨0, sExpecting, .valid, true, some ⟨1, .valid⟩⟩

theorem stepP0 (s : Sys) : stepProvider (envP s) sOffered (some tRegistered) (some tOffered) =
    ⟨.ok sRegistered (some tRegistered) (some tRegistered), some tOffered, [.update tRegistered true]⟩ := rfl
theorem stepP1 (s : Sys) (h : s.bidStored = false) :
    stepProvider (envP s) sRegistered (some tRegistered) (some tRegistered) =
    ⟨.ok sOrdered (some tOrd) (some tOrd), some tOrd, [.submit tOrd .ok]⟩ := by
  unfold envP; rw [h]; rfl
theorem stepP2 (s : Sys) : stepProvider (envP s) sOrdered (some tRegistered) (some tOrd) =
    ⟨.ok sExpecting (some tExp) (some tExp), some tOrd, [.send false tOrd true, .update tExp true]⟩ := rfl
theorem stepP3 (s : Sys) : stepProvider (envP s) sExpecting (some tRegistered) (some tExp) =
    ⟨.ok sExpecting (some tExp) (some tExp), some tOrd, [.send false tOrd true, .update tExp true]⟩ := rfl
theorem stepR0 (s : Sys) : stepRecipient (envR s) sRegistered (some tRegistered) (some tRegistered) =
    ⟨.ok sRegistered (some tRegistered) (some tRegistered), some tRegistered, [.send true tRegistered true]⟩ := rfl
theorem stepR1 (s : Sys) (h : s.pending = none) :
    stepRecipient (envR s) sRegistered (some tRegistered) (some tOrd) =
    ⟨.ok sExpecting (some tExp) (some tExp), some tExp, [.validate tOrd true, .expect tExp true]⟩ := by
  unfold envR; rw [h]; rfl
theorem stepR2 (s : Sys) (h : s.pending = some 1) :
    stepRecipient (envR s) sExpecting (some tExp) (some tOrd) =
    ⟨.err eExpect, some tOrd, [.expect tOrd false]⟩ := by
  unfold envR; rw [h]; rfl

/-- only deliveries (of any sent ticket, again and again), handler steps and receive errors -/
def noRestartAct : Act → Bool
  | .deliver _ _ | .proc _ | .recvErr _ => true
  | _ => false

/-- the provider before it expects; from `registered` on it is in its loop -/
inductive PPh
  | offered | registered | ordered

/-- How far a restart-free run has got. `pin`: the recipient's registered ticket sits in the provider's packetChan;
`rin`: the ordered ticket sits in the recipient's. -/
inductive Ph
  | start                                -- the recipient's starting packet is pending; the provider has received nothing
  | pre (pp : PPh) (pin : Bool)          -- the recipient is registered
  | exp (pin rexp rin : Bool) (n : Nat)  -- provider expecting, has sent the ordered ticket n + 1 times; `rexp`: so is the recipient

structure NRc where
  ph : Ph
  lg : List (Bool × Eff)

def pParty (pp : PPh) (pin : Bool) : Party :=
  let inb := if pin then some tRegistered else none
  match pp with
  | .offered => ⟨true, sOffered, some tOffered, inb, none, false, false, tOffered⟩
  | .registered => ⟨true, sRegistered, some tRegistered, inb, some tRegistered, false, false, tRegistered⟩
  | .ordered => ⟨true, sOrdered, some tOrd, inb, some tRegistered, false, false, tRegistered⟩

def pExp (pin : Bool) : Party :=
  ⟨true, sExpecting, some tExp, if pin then some tRegistered else none, none, false, false, tExp⟩

def rParty (rexp rin : Bool) : Party :=
  let inb := if rin then some tOrd else none
  if rexp then ⟨true, sExpecting, some tExp, inb, none, false, false, tExp⟩
  else ⟨true, sRegistered, some tRegistered, inb, none, false, false, tRegistered⟩

def mk (c : NRc) : Sys :=
  match c.ph with
  | .start => { init with log := c.lg }
  | .pre pp pin =>
    { p := pParty pp pin, r := rParty false false, bidStored := pp matches .ordered,
      bids := if pp matches .ordered then 1 else 0, pending := none, toR := [], toP := [tRegistered], log := c.lg,
      panicked := false }
  | .exp pin rexp rin n =>
    { p := pExp pin, r := rParty rexp rin, bidStored := true, bids := 1, pending := if rexp then some 1 else none,
      toR := List.replicate (n + 1) tOrd, toP := [tRegistered], log := c.lg, panicked := false }

theorem pParty_alive (pp : PPh) (pin : Bool) : (pParty pp pin).alive = true := by
  cases pp <;> rfl

theorem pParty_inbox (pp : PPh) (pin : Bool) : (pParty pp pin).inbox = if pin then some tRegistered else none := by
  cases pp <;> rfl

theorem rParty_alive (rexp rin : Bool) : (rParty rexp rin).alive = true := by
  cases rexp <;> rfl

def nrStep (c : NRc) : Act → Option NRc
  | .recvErr prov => some { c with lg := (prov, .initMailbox) :: c.lg }
  | .deliver true i =>
    match c.ph, i with
    | .pre pp false, 0 => some { c with ph := .pre pp true }
    | .exp false rexp rin n, 0 => some { c with ph := .exp true rexp rin n }
    | _, _ => none
  | .deliver false i =>
    match c.ph with
    | .exp pin rexp false n => if i ≤ n then some { c with ph := .exp pin rexp true n } else none
    | _ => none
  | .proc true =>
    match c.ph with
    | .pre .offered true => some ⟨.pre .registered false, (true, .update tRegistered true) :: c.lg⟩
    | .pre .registered pin => some ⟨.pre .ordered pin, (true, .submit tOrd .ok) :: c.lg⟩
    | .pre .ordered pin =>
      some ⟨.exp pin false false 0, (true, .update tExp true) :: (true, .send false tOrd true) :: c.lg⟩
    | .exp true rexp rin n =>
      some ⟨.exp false rexp rin (n + 1), (true, .update tExp true) :: (true, .send false tOrd true) :: c.lg⟩
    | _ => none
  | .proc false =>
    match c.ph with
    | .start => some ⟨.pre .offered false, (false, .send true tRegistered true) :: c.lg⟩
    | .exp pin false true n =>
      some ⟨.exp pin true false n, (false, .expect tExp true) :: (false, .validate tOrd true) :: c.lg⟩
    | .exp pin true true n => some ⟨.exp pin true false n, (false, .expect tOrd false) :: c.lg⟩
    | _ => none
  | _ => none

def nrRun (c : NRc) (as : List Act) : Option NRc := as.foldlM nrStep c

attribute [local simp] nrStep mk applyG getParty setParty nextPkt takePkt procStep applyEffs applyEff in
theorem applyG_mk (c : NRc) (a : Act) (hn : noRestartAct a = true) :
    applyG true (mk c) a = (nrStep c a).map mk := by
  obtain ⟨ph, lg⟩ := c
  cases a with
  | deliver tp i =>
    cases tp
    · cases ph with
      | start => simp [init]
      | pre pp pin => simp
      | exp pin rexp rin n => cases rexp <;> cases rin <;> by_cases hi : i ≤ n <;> simp [rParty, hi, Nat.lt_succ_iff]
    · cases ph with
      | start => simp [init]
      | pre pp pin =>
        cases pin <;> rcases i with _ | i <;> simp [pParty_alive, pParty_inbox]
        -- the delivered ticket is the one `pin` stands for
        cases pp <;> rfl
      | exp pin rexp rin n => cases pin <;> rcases i with _ | i <;> simp [pExp]
  | proc prov =>
    cases prov
    · cases ph with
      | start => simp [init, stepR0, pParty, rParty]
      | pre pp pin => simp [rParty]
      | exp pin rexp rin n =>
        cases rin
        · cases rexp <;> simp [rParty]
        · cases rexp
          · simp [rParty, stepR1, tExp]
          · simp [rParty, stepR2]
    · cases ph with
      | start => simp [init]
      | pre pp pin =>
        cases pp
        · cases pin
          · simp [pParty]
          · simp [pParty, stepP0]
            decide
        · simp [pParty, stepP1]
          decide
        · simp [pParty, stepP2, pExp]
      | exp pin rexp rin n =>
        cases pin
        · simp [pExp]
        · simp [pExp, stepP3, ← List.replicate_succ']
  | recvErr prov => cases ph <;> cases prov <;> simp [init, rParty_alive, pParty_alive, pExp]
  | _ => cases hn

/-- the phases in the order in which a run passes them -/
def Ph.rank : Ph → Nat
  | .start => 0
  | .pre pp _ => match pp with
    | .offered => 1
    | .registered => 2
    | .ordered => 3
  | .exp _ rexp _ _ => if rexp then 5 else 4

theorem Ph.rank_le (ph : Ph) : ph.rank ≤ 5 := by
  cases ph <;> simp only [Ph.rank] <;> (try split) <;> omega

theorem nrStep_rank {c c' : NRc} {a : Act} (h : nrStep c a = some c') : c.ph.rank ≤ c'.ph.rank := by
  obtain ⟨ph, lg⟩ := c
  cases a with
  | deliver tp i =>
    -- a delivery sets `pin` or `rin` and nothing else
    cases tp <;> simp only [nrStep] at h <;> repeat' split at h
    all_goals cases h
    all_goals exact Nat.le_refl _
  | proc prov => cases prov <;> simp only [nrStep] at h <;> split at h <;> cases h <;> simp [Ph.rank] <;> omega
  | recvErr prov => cases h; exact Nat.le_refl _
  | _ => cases h

theorem runG_mk (c : NRc) {as : List Act} (hall : as.all noRestartAct = true) :
    runG true (mk c) as = (nrRun c as).map mk := by
  induction as generalizing c with
  | nil => rfl
  | cons a as ih =>
    simp only [List.all_cons, Bool.and_eq_true] at hall
    simp only [runG, nrRun, List.foldlM_cons, applyG_mk c a hall.1]
    cases h : nrStep c a with
    | none => rfl
    | some c1 => exact ih c1 hall.2

theorem NR_closure (c : NRc) (a : Act) (hn : noRestartAct a = true) (s' : Sys)
    (ha : applyG true (mk c) a = some s') : ∃ c', s' = mk c' ∧ c.ph.rank ≤ c'.ph.rank := by
  rw [applyG_mk c a hn] at ha
  obtain ⟨c', hc, rfl⟩ := Option.map_eq_some_iff.1 ha
  exact ⟨c', rfl, nrStep_rank hc⟩

theorem init_eq_mk : init = mk ⟨.start, []⟩ := rfl

theorem NR_run (as : List Act) (c : NRc) (hall : as.all noRestartAct = true) (s' : Sys)
    (h : runG true (mk c) as = some s') : ∃ c', s' = mk c' := by
  rw [runG_mk c hall] at h
  obtain ⟨c', -, rfl⟩ := Option.map_eq_some_iff.1 h
  exact ⟨c', rfl⟩

def bothExpecting (s : Sys) : Bool := s.p.alive && s.p.cur == sExpecting && s.r.alive && s.r.cur == sExpecting

theorem bothExpecting_mk (c : NRc) : bothExpecting (mk c) = true ↔ c.ph.rank = 5 := by
  obtain ⟨ph, lg⟩ := c
  cases ph with
  | start => simp [bothExpecting, mk, init, Ph.rank, sOffered, sExpecting]
  | pre pp pin =>
    cases pp <;> simp [bothExpecting, mk, pParty, Ph.rank, sOffered, sRegistered, sOrdered, sExpecting]
  | exp pin rexp rin n => cases rexp <;> simp [bothExpecting, mk, pExp, rParty, Ph.rank, sRegistered, sExpecting]

/-- From every closed-form state a finite sequence of deliveries and handler steps reaches both-expecting: the rest of
the happy path, with a delivery wherever the ticket is not yet in the packetChan. -/
theorem nrRun_progress (c : NRc) :
    ∃ as c', as.all noRestartAct = true ∧ nrRun c as = some c' ∧ c'.ph.rank = 5 := by
  obtain ⟨ph, lg⟩ := c
  cases ph with
  | start =>
    exact ⟨[.proc false, .deliver true 0, .proc true, .proc true, .proc true, .deliver false 0, .proc false],
      _, rfl, rfl, rfl⟩
  | pre pp pin =>
    cases pp
    · cases pin
      · exact ⟨[.deliver true 0, .proc true, .proc true, .proc true, .deliver false 0, .proc false], _, rfl, rfl, rfl⟩
      · exact ⟨[.proc true, .proc true, .proc true, .deliver false 0, .proc false], _, rfl, rfl, rfl⟩
    · exact ⟨[.proc true, .proc true, .deliver false 0, .proc false], _, rfl, rfl, rfl⟩
    · exact ⟨[.proc true, .deliver false 0, .proc false], _, rfl, rfl, rfl⟩
  | exp pin rexp rin n =>
    cases rexp
    · cases rin
      · exact ⟨[.deliver false 0, .proc false], _, rfl, rfl, rfl⟩
      · exact ⟨[.proc false], _, rfl, rfl, rfl⟩
    · exact ⟨[], _, rfl, rfl, rfl⟩

theorem NR_progress (c : NRc) :
    ∃ as c', as.all noRestartAct = true ∧ runG true (mk c) as = some (mk c') ∧ c'.ph.rank = 5 := by
  obtain ⟨as, c', hall, hrun, hr⟩ := nrRun_progress c
  exact ⟨as, c', hall, by rw [runG_mk c hall, hrun]; rfl, hr⟩

theorem NR_stable (c : NRc) (hb : c.ph.rank = 5) (a : Act) (hn : noRestartAct a = true)
    (s' : Sys) (ha : applyG true (mk c) a = some s') : bothExpecting s' = true := by
  obtain ⟨c', rfl, hr⟩ := NR_closure c a hn s' ha
  have := c'.ph.rank_le
  rw [bothExpecting_mk]
  omega

end Pool.C16
