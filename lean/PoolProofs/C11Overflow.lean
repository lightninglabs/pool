import PoolProofs.C11Lemmas
/-! No `int64` overflow inside `inDomain`: every integer `ReservedValue` computes on its way, and the magnitude of one
reserved value. -/
namespace Pool.C11
open Pool.Float64 Pool.Gen.Reserve

def In64 (v : Int) : Prop := -(2 : Int) ^ 63 ≤ v ∧ v < (2 : Int) ^ 63

/-! Magnitudes are kept as `|v| ≤ b` with `b` a sum of literals: sums and differences add their bounds, and only the
last step compares a literal with 2^63. -/

theorem In64.of_abs {v b : Int} (h : |v| ≤ b) (hb : b < 2 ^ 63 := by norm_num) : In64 v := by
  have := abs_le.1 h
  exact ⟨by linarith, by linarith⟩

theorem abs_natCast_le {n : Nat} {b : Int} (h : (n : Int) ≤ b) : |(n : Int)| ≤ b := by
  rwa [Nat.abs_cast]

theorem abs_add_le_add {x y a b : Int} (hx : |x| ≤ a) (hy : |y| ≤ b) : |x + y| ≤ a + b :=
  (abs_add_le x y).trans (add_le_add hx hy)

theorem abs_sub_le_add {x y a b : Int} (hx : |x| ≤ a) (hy : |y| ≤ b) : |x - y| ≤ a + b :=
  (abs_sub x y).trans (add_le_add hx hy)

/-- the conjuncts of `inDomain` the overflow proofs use (not its bounds on `units`, `amt`, nor `< 2^32` on rate and
    duration) -/
structure Dom (fs : FeeSchedule) (o : Order) : Prop where
  unf : o.unitsUnfulfilled ≤ 10 ^ 7
  mn : o.minUnitsMatch ≤ 10 ^ 7
  self : o.selfChanBalance ≤ 10 ^ 11
  base : fs.baseFee ≤ 10 ^ 9
  ppm : fs.feeRate ≤ 10 ^ 6
  maxFee : o.maxBatchFeeRate ≤ 10 ^ 8
  g1 : (toSatoshis o.unitsUnfulfilled + maxMatches o * o.selfChanBalance) * o.fixedRate * o.leaseDuration
        ≤ 2 ^ 48 * feeRateTotalParts
  g2 : (toSatoshis o.unitsUnfulfilled + 2 * toSatoshis o.minUnitsMatch + o.selfChanBalance) * o.fixedRate * o.leaseDuration
        ≤ 2 ^ 48 * feeRateTotalParts

theorem dom_of_inDomain (fs : FeeSchedule) (o : Order) (h : inDomain fs o = true) : Dom fs o := by
  simp only [inDomain, premiumGuard, Bool.and_eq_true, decide_eq_true_eq] at h
  obtain ⟨⟨⟨⟨⟨⟨⟨⟨⟨⟨⟨h1, h2⟩, _⟩, _⟩, h5⟩, h6⟩, h7⟩, h8⟩, _⟩, _⟩, h11⟩, h12⟩ := h
  exact ⟨h1, h2, h5, h6, h7, h8, h11, h12⟩

theorem toSatoshis_le {n : Nat} (h : n ≤ 10 ^ 7) : toSatoshis n ≤ 10 ^ 12 := by
  unfold toSatoshis baseSupplyUnit; omega

theorem mul_premium_le_of_guard (k y rate dur : Nat) (h : k * y * rate * dur ≤ 2 ^ 48 * feeRateTotalParts) :
    k * premium y rate dur ≤ 2 ^ 49 := by
  have hc : (k : ℚ) * y * cRate rate dur ≤ 2 ^ 48 := by exact_mod_cast cRate_mul_le (M := 2 ^ 48) h
  have h0 : (0 : ℚ) ≤ (k : ℚ) * y * cRate rate dur := by have := cRate_nonneg rate dur; positivity
  have : (k : ℚ) * premium y rate dur ≤ 2 ^ 49 :=
    calc (k : ℚ) * premium y rate dur ≤ k * (y * cRate rate dur * (1 + eps)) :=
          mul_le_mul_of_nonneg_left (premium_cRate_bounds y rate dur).2 (Nat.cast_nonneg k)
      _ = k * y * cRate rate dur * (1 + eps) := by ring
      _ ≤ k * y * cRate rate dur * 2 := mul_le_mul_of_nonneg_left (by unfold eps; norm_num) h0
      _ ≤ 2 ^ 49 := by linarith
  exact_mod_cast this

theorem premium_le_of_guard (y rate dur : Nat) (h : y * rate * dur ≤ 2 ^ 48 * feeRateTotalParts) :
    premium y rate dur ≤ 2 ^ 49 := by
  simpa using mul_premium_le_of_guard 1 y rate dur (by simpa using h)

theorem execFeeQuot_le (fs : FeeSchedule) (y : Nat) (hppm : fs.feeRate ≤ 10 ^ 6) :
    y * fs.feeRate / execFeeRateDivisor ≤ y :=
  Nat.div_le_of_le_mul (by rw [Nat.mul_comm]; exact Nat.mul_le_mul_right y hppm)

theorem executionFee_le_nat (fs : FeeSchedule) (y : Nat) (hppm : fs.feeRate ≤ 10 ^ 6) :
    executionFee fs y ≤ fs.baseFee + y := by
  unfold executionFee; have := execFeeQuot_le fs y hppm; omega

theorem execFeeParts_bound (fs : FeeSchedule) (y : Nat) (hy : y ≤ 3 * 10 ^ 12) (hppm : fs.feeRate ≤ 10 ^ 6)
    (hbase : fs.baseFee ≤ 10 ^ 9) : ∀ v ∈ execFeeParts fs y, |v| ≤ 4 * 10 ^ 18 := by
  have h1 : y * fs.feeRate ≤ 3 * 10 ^ 12 * 10 ^ 6 := Nat.mul_le_mul hy hppm
  have h2 := execFeeQuot_le fs y hppm
  have h3 := executionFee_le_nat fs y hppm
  simp only [execFeeParts, List.forall_mem_cons, List.not_mem_nil, false_imp_iff, implies_true, and_true]
  exact ⟨abs_natCast_le (by omega), abs_natCast_le (by omega), abs_natCast_le (by omega)⟩

/-- every term of either closure, with its sign dropped -/
theorem perMatch_abs_le (fs : FeeSchedule) (o : Order) (amt : Nat) :
    |perMatch fs o amt| ≤ ((amt + premium (amt + sigma o) o.fixedRate o.leaseDuration + o.selfChanBalance
      + executionFee fs (amt + sigma o) : Nat) : Int) := by
  rw [abs_le]
  cases hside : o.isBid
  · rw [perMatch_of_ask fs hside, sigma_of_ask hside, Nat.add_zero]
    unfold askPerMatch makerDelta; constructor <;> omega
  · rw [perMatch_of_bid fs hside]
    unfold bidPerMatch takerDelta; rw [bidPremiumAmt_eq hside]; constructor <;> omega

theorem Dom.premium_bound {fs : FeeSchedule} {o : Order} (hd : Dom fs o) {amt : Nat}
    (hamt : amt ≤ 2 * toSatoshis o.minUnitsMatch) :
    premium (amt + sigma o) o.fixedRate o.leaseDuration ≤ 2 ^ 49 := by
  have := sigma_le o
  exact premium_le_of_guard _ _ _
    (le_trans (Nat.mul_le_mul_right _ (Nat.mul_le_mul_right _ (by omega))) hd.g2)

theorem Dom.perMatch_le {fs : FeeSchedule} {o : Order} (hd : Dom fs o) {amt : Nat}
    (hamt : amt ≤ 2 * toSatoshis o.minUnitsMatch) : |perMatch fs o amt| ≤ 2 ^ 50 := by
  have hm := toSatoshis_le hd.mn
  have hs := hd.self
  have hbase := hd.base
  have hP := hd.premium_bound hamt
  have hσ := sigma_le o
  have hE := executionFee_le_nat fs (amt + sigma o) hd.ppm
  refine (perMatch_abs_le fs o amt).trans ?_
  omega

theorem Dom.perMatchParts_in64 {fs : FeeSchedule} {o : Order} (hd : Dom fs o) {amt : Nat}
    (hamt : amt ≤ 2 * toSatoshis o.minUnitsMatch) : ∀ v ∈ perMatchParts fs o amt, In64 v := by
  have hm := toSatoshis_le hd.mn
  have hpm := hd.perMatch_le hamt
  have hσ := sigma_le o
  have hs := hd.self
  have hE := execFeeParts_bound fs (amt + sigma o) (by omega) hd.ppm hd.base
  have hp : |(premium (amt + sigma o) o.fixedRate o.leaseDuration : Int)| ≤ 2 ^ 49 :=
    abs_natCast_le (by exact_mod_cast hd.premium_bound hamt)
  have hs' : |(o.selfChanBalance : Int)| ≤ 10 ^ 11 := abs_natCast_le (by exact_mod_cast hs)
  unfold perMatchParts
  split
  · rename_i hbid
    rw [perMatch_of_bid fs hbid] at hpm
    rw [bidPremiumAmt_eq hbid]
    simp only [List.forall_mem_append, List.forall_mem_cons, List.not_mem_nil, false_imp_iff, implies_true, and_true]
    exact ⟨⟨⟨.of_abs (abs_natCast_le (b := 3 * 10 ^ 12) (by omega)), .of_abs hp, .of_abs ((abs_neg _).le.trans hp),
        .of_abs (abs_sub_le_add ((abs_neg _).le.trans hp) hs')⟩,
      fun v hv => .of_abs (hE v hv)⟩, .of_abs hpm⟩
  · rename_i hask
    have hask := eq_false_of_ne_true hask
    rw [perMatch_of_ask fs hask] at hpm
    rw [sigma_of_ask hask, Nat.add_zero] at hE hp
    have ha : |(amt : Int)| ≤ 2 * 10 ^ 12 := abs_natCast_le (by omega)
    simp only [List.forall_mem_append, List.forall_mem_cons, List.not_mem_nil, false_imp_iff, implies_true, and_true]
    exact ⟨⟨⟨.of_abs ha, .of_abs hp, .of_abs ((abs_neg _).le.trans ha),
        .of_abs (abs_add_le_add ((abs_neg _).le.trans ha) hp)⟩,
      fun v hv => .of_abs (hE v hv)⟩, .of_abs hpm⟩

theorem traderWeight_one_le (ver : Nat) : traderWeight 1 ver ≤ 1000 := by
  have := (traderWitness_bounds ver).2
  rw [traderWeight_one]
  omega

theorem estimateTraderFee_one_le (feeRate ver : Nat) : estimateTraderFee 1 feeRate ver ≤ feeRate :=
  Nat.div_le_of_le_mul (by rw [Nat.mul_comm]; exact Nat.mul_le_mul_right _ (traderWeight_one_le ver))

theorem traderFeeParts_bound (feeRate ver : Nat) (hf : feeRate ≤ 10 ^ 8) :
    ∀ v ∈ traderFeeParts 1 feeRate ver, |v| ≤ 10 ^ 11 := by
  have hw := traderWeight_one_le ver
  have h1 : feeRate * traderWeight 1 ver ≤ 10 ^ 8 * 1000 := Nat.mul_le_mul hf hw
  have h2 := estimateTraderFee_one_le feeRate ver
  simp only [traderFeeParts, List.forall_mem_cons, List.not_mem_nil, false_imp_iff, implies_true, and_true]
  exact ⟨abs_natCast_le (by omega), abs_natCast_le (by omega), abs_natCast_le (by omega)⟩

/-- in the terms of the closed form: `U`, `m` the unfilled and minimum amounts, `N` the number of matches, `X`, `Y` the
    closure at `m` and at `m + U % m`, `f` one chain fee. `N·X ≤ 2.1·10^18`: the premiums add up to ≤ 2^49 by the
    first premium guard, the self balances to ≤ 10^18, the execution fees to ≤ 10^16 + 10^12 + 10^18. -/
structure Magnitudes (U m N : Nat) (X Y : Int) (f : Nat) : Prop where
  U_le : U ≤ 10 ^ 12
  m_le : m ≤ 10 ^ 12
  N_le : N ≤ 10 ^ 7
  Nm_le : N * m ≤ U
  X_le : |X| ≤ 2 ^ 50
  Y_le : |Y| ≤ 2 ^ 50
  NX_le : |(N : Int) * X| ≤ 21 * 10 ^ 17
  f_le : f ≤ 10 ^ 8

theorem dom_magnitudes (fs : FeeSchedule) (o : Order) (ver : Nat) (hd : Dom fs o) (hm : 0 < o.minUnitsMatch) :
    Magnitudes (toSatoshis o.unitsUnfulfilled) (toSatoshis o.minUnitsMatch) (maxMatches o)
      (perMatch fs o (toSatoshis o.minUnitsMatch))
      (perMatch fs o (toSatoshis o.minUnitsMatch + toSatoshis o.unitsUnfulfilled % toSatoshis o.minUnitsMatch))
      (estimateTraderFee 1 o.maxBatchFeeRate ver) := by
  have hU := toSatoshis_le hd.unf
  have hmle := toSatoshis_le hd.mn
  have hr : toSatoshis o.unitsUnfulfilled % toSatoshis o.minUnitsMatch < toSatoshis o.minUnitsMatch :=
    Nat.mod_lt _ (Nat.mul_pos hm baseSupplyUnit_pos)
  have hN : maxMatches o ≤ 10 ^ 7 := le_trans (Nat.div_le_self _ _) hd.unf
  have hNm : maxMatches o * toSatoshis o.minUnitsMatch ≤ toSatoshis o.unitsUnfulfilled := by
    rw [← maxMatches_eq o]; exact Nat.div_mul_le_self _ _
  refine ⟨hU, hmle, hN, hNm, hd.perMatch_le (by omega), hd.perMatch_le (by omega), ?_,
    (estimateTraderFee_one_le _ ver).trans hd.maxFee⟩
  have hg1 := hd.g1
  generalize maxMatches o = N at *
  generalize toSatoshis o.minUnitsMatch = m at *
  have hNσ : N * sigma o ≤ N * o.selfChanBalance := Nat.mul_le_mul_left _ (sigma_le o)
  have hNs : N * o.selfChanBalance ≤ 10 ^ 7 * 10 ^ 11 := Nat.mul_le_mul hN hd.self
  have hNb : N * fs.baseFee ≤ 10 ^ 7 * 10 ^ 9 := Nat.mul_le_mul hN hd.base
  have hNpb : N * (m + sigma o) = N * m + N * sigma o := Nat.mul_add _ _ _
  have hNP := mul_premium_le_of_guard N (m + sigma o) o.fixedRate o.leaseDuration
    (le_trans (Nat.mul_le_mul_right _ (Nat.mul_le_mul_right _ (by omega))) hg1)
  have hNE : N * executionFee fs (m + sigma o) ≤ N * fs.baseFee + N * (m + sigma o) := by
    rw [← Nat.mul_add]; exact Nat.mul_le_mul_left _ (executionFee_le_nat fs _ hd.ppm)
  rw [abs_mul, Nat.abs_cast]
  refine (mul_le_mul_of_nonneg_left (perMatch_abs_le fs o m) (Int.natCast_nonneg N)).trans ?_
  rw [← Nat.cast_mul, Nat.mul_add, Nat.mul_add, Nat.mul_add]
  omega

theorem Magnitudes.Nf_le {U m N : Nat} {X Y : Int} {f : Nat} (h : Magnitudes U m N X Y f) :
    |(N : Int) * (f : Int)| ≤ 10 ^ 7 * 10 ^ 8 := by
  rw [← Nat.cast_mul]; exact abs_natCast_le (by exact_mod_cast Nat.mul_le_mul h.N_le h.f_le)

theorem closedBalanceDelta_abs_le (fs : FeeSchedule) (o : Order) (ver : Nat)
    (hd : Dom fs o) (hm : 0 < o.minUnitsMatch) : |closedBalanceDelta fs o ver| ≤ 22 * 10 ^ 17 := by
  have h := dom_magnitudes fs o ver hd hm
  rw [closedBalanceDelta_eq, sub_one_mul]
  exact (abs_sub_le_add (abs_add_le_add (abs_sub_le_add h.NX_le h.X_le) h.Y_le) h.Nf_le).trans (by norm_num)

theorem reserved_intermediates_in64 (fs : FeeSchedule) (o : Order) (ver : Nat)
    (hD : inDomain fs o = true) (hm : 0 < o.minUnitsMatch) :
    ∀ v ∈ reservedIntermediates fs o ver, In64 v := by
  have hd := dom_of_inDomain fs o hD
  have hmag := dom_magnitudes fs o ver hd hm
  have hcbd := closedBalanceDelta_abs_le fs o ver hd hm
  have hr : toSatoshis o.unitsUnfulfilled % toSatoshis o.minUnitsMatch < toSatoshis o.minUnitsMatch :=
    Nat.mod_lt _ (Nat.mul_pos hm baseSupplyUnit_pos)
  have hpX := hd.perMatchParts_in64 (amt := toSatoshis o.minUnitsMatch) (by omega)
  have hpY := hd.perMatchParts_in64
    (amt := toSatoshis o.minUnitsMatch + toSatoshis o.unitsUnfulfilled % toSatoshis o.minUnitsMatch) (by omega)
  have hfee : ∀ v ∈ traderFeeParts 1 o.maxBatchFeeRate ver, In64 v := fun v hv =>
    .of_abs (traderFeeParts_bound o.maxBatchFeeRate ver hd.maxFee v hv)
  unfold reservedIntermediates
  simp only [maxMatches_eq o]
  generalize toSatoshis o.unitsUnfulfilled = U at *
  generalize toSatoshis o.minUnitsMatch = m at *
  generalize maxMatches o = N at *
  generalize estimateTraderFee 1 o.maxBatchFeeRate ver = f at *
  generalize perMatch fs o m = X at *
  generalize perMatch fs o (m + U % m) = Y at *
  have hNfa := hmag.Nf_le
  obtain ⟨hU, hmle, hN, hNm, hX, hY, hNX, hf⟩ := hmag
  have hUa : |(U : Int)| ≤ 10 ^ 12 := abs_natCast_le (by exact_mod_cast hU)
  have hma : |(m : Int)| ≤ 10 ^ 12 := abs_natCast_le (by exact_mod_cast hmle)
  have hNa : |(N : Int)| ≤ 10 ^ 7 := abs_natCast_le (by exact_mod_cast hN)
  have hfa : |(f : Int)| ≤ 10 ^ 8 := abs_natCast_le (by exact_mod_cast hf)
  have hNma : |(N : Int) * (m : Int)| ≤ 10 ^ 12 := by
    rw [← Nat.cast_mul]; exact abs_natCast_le (by exact_mod_cast hNm.trans hU)
  simp only [List.forall_mem_append, List.forall_mem_cons, List.not_mem_nil, false_imp_iff, implies_true, and_true]
  refine ⟨⟨⟨⟨⟨.of_abs hUa, .of_abs hma, .of_abs hNa, .of_abs hNma⟩, hpX⟩, hfee⟩, ?_⟩,
    .of_abs hcbd, .of_abs ((abs_neg _).le.trans hcbd)⟩
  split
  · -- `(N - 1) * x` is bounded as `N * x - x`
    have hXY := abs_add_le_add (abs_sub_le_add hNX hX) hY
    have hff := abs_sub_le_add hNfa hfa
    simp only [List.forall_mem_append, List.forall_mem_cons, List.not_mem_nil, false_imp_iff, implies_true, and_true,
      sub_one_mul]
    exact ⟨⟨⟨.of_abs (abs_sub_le_add hNa abs_one.le), .of_abs (abs_sub_le_add hNma hma),
        .of_abs (abs_natCast_le (b := 2 * 10 ^ 12) (by omega))⟩, hpY⟩,
      .of_abs (abs_sub_le_add hNX hX), .of_abs hXY, .of_abs hff, .of_abs (abs_sub_le_add hXY hff)⟩
  · simp only [List.forall_mem_cons, List.not_mem_nil, false_imp_iff, implies_true, and_true]
    exact ⟨.of_abs hNX, .of_abs hNfa⟩

theorem reservedOf_bounds (fs : FeeSchedule) (o : Order) (ver : Nat)
    (h : archived o.state = true ∨ (inDomain fs o = true ∧ 0 < o.minUnitsMatch)) :
    0 ≤ reservedOf fs ver o ∧ reservedOf fs ver o ≤ 22 * 10 ^ 17 := by
  by_cases ha : archived o.state = true
  · simp [reservedOf, orderReservedValue_eq, reservedValue_archived _ _ _ ha]
  · have hna : archived o.state = false := by simpa using ha
    rcases h with h | ⟨hD, hm⟩
    · exact absurd h ha
    · have hc := orderReservedValue_closed fs o ver hna hm
      have hb := abs_le.1 (closedBalanceDelta_abs_le fs o ver (dom_of_inDomain fs o hD) hm)
      simp only [reservedOf, hc]
      split <;> constructor <;> omega

end Pool.C11
