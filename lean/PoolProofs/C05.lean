import PoolProofs.C05LemmasHandler
import PoolProofs.C05LemmasInv

/-! C05 — batch signatures: only for the verified batch, valid for it alone, after staging.  History-level statements
quantify over all op lists, all initial databases and every verification predicate `verifyOk`, and are phrased with the
ghost of `gstep` or the scan `lastOkValidate`.  `C05_batchSign_order` and `C05_handler_order` tie the two interpreted
regenerated programs, hence every theorem below, to the Go source. -/
namespace Pool.C05
open Pool.Gen.C05

/-- (R) `manager.BatchSign`, as regenerated from the Go source, is: `batchSigner.Sign(m.pendingBatch)`;
on error return `nil, nil, err` (the storer is not reached); `batchStorer.StorePendingBatch(m.pendingBatch)`;
on error return `nil, nil, …`; only then `return sig, nonces, nil`. -/
theorem C05_batchSign_order (s : St) (f : Faults) : batchSign s f = batchSignSpec s f :=
  batchSign_eq_spec s f

/-- (R) the `Sign` case of `handleServerMessage`, as regenerated from the Go source, passes the structural
check `safeSign`: every `BatchSign` call is immediately followed by
`if err != nil { return s.sendRejectBatch(…) }`, `sendSignBatch(batch, sigs, nonces, …)` occurs only after
such a checked `BatchSign`, and the case ends with a `return`.  Where the other statements stand does not matter. -/
theorem C05_handler_order : safeSign (handlerSignProg.map parseH) = true := by decide +kernel

/-- (R) the sighash types in the Go source are SIGHASH_ALL (p2wsh) and SIGHASH_DEFAULT (taproot), the two
that commit to every input and every output; the signer matches inputs by the stored outpoint over
`batch.BatchTX` (the LAST matching input wins – forward loop without `break`, or backward loop stopping at the
first hit), gates MuSig2 on `VersionTaprootEnabled` and signs `batch.BatchTX` with `batch.PreviousOutputs`. -/
theorem C05_signer_source_shape :
    htP2wsh = 1 ∧ htTaproot = 0 ∧
    signerAccountLookup = "acctDiff.AccountKey" ∧
    signerInputMatch = "acct.OutPoint == in.PreviousOutPoint" ∧ signerInputPick = "last" ∧
    signerVersionGate = "acct.Version >= account.VersionTaprootEnabled" ∧
    signerRawTx = "batch.BatchTX" ∧ signerMuSig2Tx = "batch.BatchTX" ∧
    signerMuSig2PrevOuts = "batch.PreviousOutputs" ∧
    -- the MuSig2 session is opened with the STORED account's script version, expiry, keys and secret
    -- (never with the diff's new version / new expiry)
    (signerMuSig2SessionArgs.drop 1).take 6 =
      ["acct.Version.ScriptVersion()", "acct.Expiry", "acct.TraderKey.PubKey", "acct.BatchKey", "acct.Secret",
       "acct.AuctioneerKey"] :=
  ⟨htP2wsh_eq, htTaproot_eq, rfl, rfl, rfl, rfl, rfl, rfl, rfl, rfl⟩

/-- (R) what `batchStorer.StorePendingBatch` stages per account is built from exactly these modifiers, and
each modifier is a single unconditional assignment of its field (a modifier that silently declines to apply –
e.g. an `ExpiryModifier` that only ever extends – would stage something else than the verified batch says).
`stagedRow` is the model of this table. -/
theorem C05_storer_modifier_shape :
    accountModifierBodies =
      [("ExpiryModifier", ["account.Expiry = arg"]),
       ("HeightHintModifier", ["account.HeightHint = arg"]),
       ("IncrementBatchKey", ["account.BatchKey = poolscript.IncrementKey(account.BatchKey)"]),
       ("LatestTxModifier", ["account.LatestTx = arg"]),
       ("OutPointModifier", ["account.OutPoint = arg"]),
       ("StateModifier", ["account.State = arg"]),
       ("ValueModifier", ["account.Value = arg"]),
       ("VersionModifier", ["account.Version = arg"])] ∧
    storerRecreatedModifiers =
      ["account.StateModifier(account.StatePendingBatch)",
       "account.OutPointModifier(wire.OutPoint{ Hash: batch.BatchTX.TxHash(), Index: uint32(diff.OutpointIndex), })",
       "account.IncrementBatchKey()"] ∧
    storerRecreatedConditional =
      [("0 != diff.NewExpiry && batch.Version.SupportsAccountExtension()", ["account.ExpiryModifier(diff.NewExpiry)"]),
       ("batch.Version.SupportsAccountTaprootUpgrade() && diff.NewVersion > acct.Version",
        ["account.VersionModifier(diff.NewVersion)"])] ∧
    storerClosedModifiers = ["account.StateModifier(account.StatePendingClosed)"] ∧
    storerCommonModifiers =
      ["account.ValueModifier(diff.EndingBalance)", "account.HeightHintModifier(batch.HeightHint)",
       "account.LatestTxModifier(batch.BatchTX)"] := ⟨rfl, rfl, rfl, rfl, rfl⟩

/-- the staged row of a re-created account carries the diff's new outpoint, and the diff's new expiry whenever
that is non-zero – also when it is LOWER than the stored one (the verifier bounds `NewExpiry` only from above,
and the re-created output commits to it) -/
theorem C05_staged_row_follows_diff (db : DB) (d : Diff) (r : Acct) (op : OutPoint)
    (h : RowFor db d r) (hop : d.newOutpoint = some op) :
    r.outpoint = op ∧ r.key = d.acct ∧ (d.newExpiry ≠ 0 → r.expiry = d.newExpiry) ∧
    (∀ o, d.newOut = some o → r.out = o) := by
  have hk := h.key
  obtain ⟨a, -, rfl⟩ := h
  unfold stagedRow at hk ⊢
  rw [hop] at hk ⊢
  exact ⟨rfl, hk, fun hne => if_pos hne, fun o ho => by rw [ho]; rfl⟩

/-- **Invariant.**  After every history the manager's pending batch is (up to the volatile Sign-message
fields) the batch of the most recent successful verification, and that batch satisfied the verifier. -/
theorem pending_is_last_verified (verifyOk : St → Batch → Bool) (accts : List Acct) (orders : List Ord)
    (ops : List Op) :
    let r := grun verifyOk (initSt accts orders) ⟨none, none, []⟩ ops
    r.1.pending.map Batch.core = r.2.lastVerified.map Batch.core ∧
    ∀ b, r.2.lastVerified = some b → ∃ s0, r.2.verifiedAt = some s0 ∧ verifyOk s0 b = true := by
  have h := inv_reachable verifyOk accts orders ops
  exact ⟨h.pending, h.verified⟩

/-- **Only for the verified batch.**  In every history, every batch of signatures ever released was
released while a successfully verified batch `b` was outstanding, contains exactly one signature per
account diff of `b` (in order), and each is the ideal signature by that account's key over the sighash
preimage of `b.tx` at the input that spends the account's STORED outpoint (SIGHASH_ALL with the account's
current output for p2wsh accounts, the taproot default sighash with the supplied prevouts otherwise). -/
theorem C05_sign_only_pending (verifyOk : St → Batch → Bool) (accts : List Acct) (orders : List Ord)
    (ops : List Op) (r : Release)
    (hr : r ∈ (grun verifyOk (initSt accts orders) ⟨none, none, []⟩ ops).2.log) :
    ∃ b s0, r.batch = some b ∧ r.verifiedAt = some s0 ∧ verifyOk s0 b = true ∧
      Forall2 (SigFor r.db b.tx r.prev) b.diffs r.sigs := by
  obtain ⟨b, s0, hb, hs0, hv, hss⟩ := (inv_reachable verifyOk accts orders ops).log r hr
  exact ⟨b, s0, hb, hs0, hv, hss.sigs⟩

/-- **After staging.**  Whenever signatures were released, the database held – at the moment of return –
the staged pending batch: the verified batch's id and transaction, with one staged row per account diff, each
the stored account with that diff's modifiers applied (`RowFor` / `stagedRow`). -/
theorem C05_release_after_stage (verifyOk : St → Batch → Bool) (accts : List Acct) (orders : List Ord)
    (ops : List Op) (r : Release)
    (hr : r ∈ (grun verifyOk (initSt accts orders) ⟨none, none, []⟩ ops).2.log) :
    ∃ b rows, r.batch = some b ∧
      r.staged = some { id := b.id, tid := b.tid, tx := b.tx, rows := rows } ∧
      rows.map (·.key) = b.diffs.map (·.acct) ∧ Forall2 (RowFor r.db) b.diffs rows := by
  obtain ⟨b, _, hb, _, _, hss⟩ := (inv_reachable verifyOk accts orders ops).log r hr
  obtain ⟨rows, hst, hrows⟩ := hss.staged
  exact ⟨b, rows, hb, hst, hrows.map_eq fun _ _ h => h.key, hrows⟩

theorem C05_log_grows_only_on_ok (verifyOk : St → Batch → Bool) (s : St) (g : Ghost) (op : Op) :
    (gstep verifyOk s g op).2.log = g.log ∨
    ∃ f ns pv S N, op = .sign f ns pv ∧ (step verifyOk s op).2 = .sign (.ok S N) := by
  unfold gstep
  generalize step verifyOk s op = r
  obtain ⟨s', o⟩ := r
  dsimp only
  split
  · exact .inl rfl
  · exact .inl rfl
  · exact .inr ⟨_, _, _, _, _, rfl, rfl⟩
  · exact .inl rfl

/-- **A failed signing stages nothing.**  If the signer fails (unknown account, input not found, missing
server nonce, signer-client error) or crashes, the database – in particular its staging area – is exactly as
before the call. -/
theorem C05_sign_fail_stages_nothing (verifyOk : St → Batch → Bool) (s : St) (f : Faults) (ns : List Key)
    (pv : List Out)
    (h : (∃ e, (step verifyOk s (.sign f ns pv)).2 = .sign (.errSign e)) ∨
         (step verifyOk s (.sign f ns pv)).2 = .sign .panic) :
    (step verifyOk s (.sign f ns pv)).1.db = s.db := by
  refine step_sign_not_ok verifyOk s f ns pv fun S N ho => ?_
  rw [ho] at h
  rcases h with ⟨e, he⟩ | he <;> cases he

/-- **A failed staging releases nothing** (and leaves no partial staging): the outcome of a `BatchSign`
whose storer fails is the bare error – it carries no signature – and the database is as before. -/
theorem C05_stage_fail_releases_nothing (verifyOk : St → Batch → Bool) (s : St) (f : Faults) (ns : List Key)
    (pv : List Out) (b : Batch) (S : List Sig) (N : List Key) (c : Ctr)
    (hb : (attachAux s ns pv).pending = some b)
    (hs : signerSign s.db b f = (.ok S N, c))
    (hst : storePending s.db b f c.acalls = none) :
    (step verifyOk s (.sign f ns pv)).2 = .sign .errStore ∧
    (step verifyOk s (.sign f ns pv)).1.db = s.db := by
  have := batchSign_store_fail (attachAux s ns pv) f b S N c hb hs hst
  rw [step, this]
  exact ⟨rfl, rfl⟩

/-- an injected store fault (before or inside the database transaction) never yields a release -/
theorem C05_store_fault_never_releases (verifyOk : St → Batch → Bool) (s : St) (f : Faults) (ns : List Key)
    (pv : List Out) (hf : f.st ≠ .none) (S : List Sig) (N : List Key) :
    (step verifyOk s (.sign f ns pv)).2 ≠ .sign (.ok S N) := by
  intro h
  obtain ⟨_, _, hnone, _⟩ := step_sign_ok verifyOk s f ns pv S N h
  exact hf hnone

/-- a release implies that the staging area holds the pending batch at the moment of return (single step,
any state) -/
theorem C05_ok_implies_staged (verifyOk : St → Batch → Bool) (s : St) (f : Faults) (ns : List Key)
    (pv : List Out) (S : List Sig) (N : List Key)
    (h : (step verifyOk s (.sign f ns pv)).2 = .sign (.ok S N)) :
    ∃ b rows, s.pending = some b ∧
      (step verifyOk s (.sign f ns pv)).1.db.staged =
        some { id := b.id, tid := b.tid, tx := b.tx, rows := rows } ∧
      Forall2 (SigFor s.db b.tx pv) b.diffs S := by
  obtain ⟨b, hb, _, hss⟩ := step_sign_ok verifyOk s f ns pv S N h
  obtain ⟨rows, hst, _⟩ := hss.staged
  exact ⟨b, rows, hb, hst, hss.sigs⟩

/-- **Only the account's CURRENT output.**  Signatures are released only if, for every account of the pending
batch, the outpoint stored in the database *at the moment of the sign request* is an input of the batch
transaction.  In particular (`C05_moved_account_is_not_signed`): if an account RPC (deposit / withdraw / renew –
`modAcct`) moved an account of the pending batch to another outpoint after the proposal was verified, a following
sign request releases nothing and stages nothing. -/
theorem C05_release_requires_stored_outpoints_spent (verifyOk : St → Batch → Bool) (s : St) (f : Faults)
    (ns : List Key) (pv : List Out) (S : List Sig) (N : List Key)
    (h : (step verifyOk s (.sign f ns pv)).2 = .sign (.ok S N)) :
    ∃ b, s.pending = some b ∧
      ∀ d ∈ b.diffs, ∃ a, getAccount s.db d.acct = some a ∧ a.outpoint ∈ b.tx.ins := by
  obtain ⟨b, _, hb, _, hF⟩ := C05_ok_implies_staged verifyOk s f ns pv S N h
  refine ⟨b, hb, fun d hd => ?_⟩
  obtain ⟨σ, _, a, idx, ha, _, hin, _⟩ := hF.exists_of_mem_left hd
  exact ⟨a, ha, List.mem_of_getElem? hin⟩

theorem C05_moved_account_is_not_signed (verifyOk : St → Batch → Bool) (s : St) (b : Batch) (d : Diff)
    (a : Acct) (f : Faults) (ns : List Key) (pv : List Out)
    (hb : s.pending = some b) (hd : d ∈ b.diffs) (ha : getAccount s.db d.acct = some a)
    (hmoved : a.outpoint ∉ b.tx.ins) :
    (∀ S N, (step verifyOk s (.sign f ns pv)).2 ≠ .sign (.ok S N)) ∧
    (step verifyOk s (.sign f ns pv)).1.db = s.db := by
  have hno : ∀ S N, (step verifyOk s (.sign f ns pv)).2 ≠ .sign (.ok S N) := by
    intro S N h
    obtain ⟨b', hb', hall⟩ := C05_release_requires_stored_outpoints_spent verifyOk s f ns pv S N h
    rw [hb] at hb'; cases hb'
    obtain ⟨a', ha', hin⟩ := hall d hd
    rw [ha] at ha'; cases ha'
    exact hmoved hin
  exact ⟨hno, step_sign_not_ok verifyOk s f ns pv hno⟩

/-- **Send after sign.**  Whenever the handler hands a sign message to the auctioneer (`post` = what
happened later, `pre` = what happened before, newest first): the most recent `BatchSign` before it returned
success; the message carries exactly the signatures and nonces that `BatchSign` returns in a state `s0` holding
the handler's own pending batch `b` (up to the Sign-message data) and account rows; they are the ideal signatures
for `b`'s diffs over `b.tx`; and the staging area at the moment of the send holds `b` (id, transaction, one row
per diff). -/
theorem C05_send_after_sign (s : St) (env : HEnv) (post pre : List Ev) (S : List Sig) (N : List Key)
    (g : Option Staged) (h : (handleSign s env).trace = post ++ Ev.sendSign S N g :: pre) :
    lastSign pre = some true ∧
    ∃ s0 s1 b rows, s0.pending = some b ∧ s0.pending.map Batch.core = s.pending.map Batch.core ∧
      s0.db.accts = s.db.accts ∧ s0.db.orders = s.db.orders ∧
      batchSign s0 env.faults = (s1, .ok S N) ∧
      g = some { id := b.id, tid := b.tid, tx := b.tx, rows := rows } ∧
      Forall2 (SigFor s0.db b.tx b.prevOuts) b.diffs S ∧ Forall2 (RowFor s0.db) b.diffs rows := by
  obtain ⟨hgood, -, -⟩ := safe_run s env _ C05_handler_order
  obtain ⟨hls, s0, s1, hk, hbs, hg⟩ := hgood S N g pre ⟨post, h.symm⟩
  obtain ⟨b, hb, _, hss⟩ := batchSign_ok s0 env.faults S N (congrArg Prod.snd hbs)
  obtain ⟨rows, hs1, hrf⟩ := hss.staged
  rw [hbs] at hs1
  exact ⟨hls, s0, s1, b, rows, hb, hk.pending, hk.accts, hk.orders, hbs, hg.trans hs1, hss.sigs, hrf⟩

/-- **Error path.**  The handler always returns; if a `BatchSign` of this invocation failed (signing or
staging failed) then – unless the process crashed – that failure is followed by exactly one more message to
the auctioneer, a reject, and by nothing else: in particular no sign message is sent after a failed
`BatchSign`. -/
theorem C05_handler_error_sends_no_sig (s : St) (env : HEnv) :
    (handleSign s env).done = true ∧
    (Ev.batchSign false ∈ (handleSign s env).trace →
      (handleSign s env).panicked = true ∨
      ∃ tr', (handleSign s env).trace = .sendReject :: .batchSign false :: tr' ∧ Ev.batchSign false ∉ tr') := by
  obtain ⟨_, hfs, hd⟩ := safe_run s env _ C05_handler_order
  refine ⟨hd, fun hm => ?_⟩
  cases hfs with
  | noFail hnf => exact absurd hm hnf
  | panicked hp => exact .inl hp
  | rejected tr' htr hnf => exact .inr ⟨tr', htr, hnf⟩

/-- **Valid for it alone.**  A released signature (ideal signature over `H ∘ preimage` for any injective
digest `H`) does not verify for a transaction whose outputs – or inputs, or locktime – differ in any way
from the batch transaction it was made for: the digest differs, hence the ideal signature is invalid. -/
theorem C05_sig_binds_tx {α : Type} (H : Preimage → α) (hH : Function.Injective H)
    (t : Bool) (tx tx' : Tx) (idx : Nat) (sp sp' : List Out) (k : Key) (o : Out) (hne : tx ≠ tx') :
    H (preimage t (if t then htTaproot else htP2wsh) tx idx sp) ≠
      H (preimage t (if t then htTaproot else htP2wsh) tx' idx sp') ∧
    Sig.verify k o (preimage t (if t then htTaproot else htP2wsh) tx' idx sp')
      ⟨k, o, preimage t (if t then htTaproot else htP2wsh) tx idx sp, 0⟩ = false := by
  have hp : preimage t (if t then htTaproot else htP2wsh) tx idx sp ≠
      preimage t (if t then htTaproot else htP2wsh) tx' idx sp' :=
    fun h => hne (preimage_injective t tx tx' idx idx sp sp' h).1
  refine ⟨fun h => hp (hH h), ?_⟩
  simp [Sig.verify, hp]

/-- in particular: altering only the outputs changes the digest -/
theorem C05_sig_commits_to_all_outputs {α : Type} (H : Preimage → α) (hH : Function.Injective H)
    (t : Bool) (tx : Tx) (outs' : List Out) (idx : Nat) (sp : List Out) (hne : tx.outs ≠ outs') :
    H (preimage t (if t then htTaproot else htP2wsh) tx idx sp) ≠
      H (preimage t (if t then htTaproot else htP2wsh) { tx with outs := outs' } idx sp) :=
  (C05_sig_binds_tx H hH t tx { tx with outs := outs' } idx sp sp 0 0
    (fun h => hne (by rw [h]))).1

/-- a signature made for the script context of one output (say the account output with the batch's NEW
expiry) does not help to spend another one (the output actually on chain) -/
theorem C05_sig_binds_output (k : Key) (o o' : Out) (m : Preimage) (hne : o ≠ o') :
    Sig.verify k o' m ⟨k, o, m, 0⟩ = false := by
  simp [Sig.verify, hne]

/-- **Validly spends the account's current output in exactly that transaction.**  The signature
`batchSigner.Sign` produces for a diff verifies for the STORED account's current output, under the account's
key, over the sighash preimage of the batch transaction at the input spending the stored outpoint. -/
theorem C05_released_sig_spends_current_output (db : DB) (tx : Tx) (prev : List Out) (d : Diff) (σ : Sig)
    (h : SigFor db tx prev d σ) :
    ∃ a idx, getAccount db d.acct = some a ∧ tx.ins[idx]? = some a.outpoint ∧
      Sig.verifyV d.acct a.out a.version σ.msg σ = true ∧
      σ.msg = (if a.version ≥ versionTaprootEnabled
               then preimage true htTaproot tx idx (prev.take tx.ins.length)
               else preimage false htP2wsh tx idx [a.out]) := by
  obtain ⟨a, idx, ha, _, hin, hk, ho, hv, hm⟩ := h
  exact ⟨a, idx, ha, hin, by simp [Sig.verifyV, Sig.verify, hk, ho, hv], hm⟩

/-- **The signing protocol is that of the output being spent, not of the diff.**  A signature made with the
protocol of another account version – e.g. a MuSig2 v1.0.0-rc2 session because the batch upgrades the account
from version 1 to 2, while the input still is the version-1 output – does not verify for the current output;
the released one carries the STORED account's version whatever `NewVersion` the diff announces. -/
theorem C05_sig_protocol_is_stored_version (db : DB) (tx : Tx) (prev : List Out) (d : Diff) (σ : Sig)
    (h : SigFor db tx prev d σ) :
    ∃ a, getAccount db d.acct = some a ∧ σ.sver = a.version ∧
      ∀ v', v' ≠ a.version → Sig.verifyV d.acct a.out a.version σ.msg { σ with sver := v' } = false := by
  obtain ⟨a, -, ha, -, -, -, -, hv, -⟩ := h
  exact ⟨a, ha, hv, fun v' hne => by simp [Sig.verifyV, hne]⟩

theorem grun_eq_run (verifyOk : St → Batch → Bool) (s : St) (g : Ghost) (ops : List Op) :
    (grun verifyOk s g ops).1 = (run verifyOk s ops).1 ∧
    (grun verifyOk s g ops).2.lastVerified =
      (ops.zip (run verifyOk s ops).2).foldl lastOkStep g.lastVerified := by
  induction ops generalizing s g with
  | nil => exact ⟨rfl, rfl⟩
  | cons op ops ih =>
    have hs : (gstep verifyOk s g op).1 = (step verifyOk s op).1 := rfl
    have hg : (gstep verifyOk s g op).2.lastVerified = lastOkStep g.lastVerified (op, (step verifyOk s op).2) := by
      unfold gstep lastOkStep
      generalize step verifyOk s op = r
      obtain ⟨s', o⟩ := r
      -- both sides match on the same constructors of `op` and the result
      cases op <;> cases o <;> try rfl
      all_goals
        rename_i x
        cases x <;> rfl
    have := ih (gstep verifyOk s g op).1 (gstep verifyOk s g op).2
    simp only [grun, run, List.zip_cons_cons, List.foldl_cons]
    rw [hs] at this
    rw [← hg]
    exact this

/-- `pending_is_last_verified` read off the plain run and the independent scan of the history -/
theorem pending_is_lastOkValidate (verifyOk : St → Batch → Bool) (accts : List Acct) (orders : List Ord)
    (ops : List Op) :
    (run verifyOk (initSt accts orders) ops).1.pending.map Batch.core =
      (lastOkValidate (ops.zip (run verifyOk (initSt accts orders) ops).2)).map Batch.core ∧
    ∀ b, lastOkValidate (ops.zip (run verifyOk (initSt accts orders) ops).2) = some b →
      ∃ s0, verifyOk s0 b = true := by
  obtain ⟨hst, hlv⟩ := grun_eq_run verifyOk (initSt accts orders) ⟨none, none, []⟩ ops
  obtain ⟨hp, hv, _⟩ := inv_reachable verifyOk accts orders ops
  rw [hst, hlv] at hp
  rw [hlv] at hv
  exact ⟨hp, fun b hb => let ⟨s0, _, h0⟩ := hv b hb; ⟨s0, h0⟩⟩

/-- **Signatures are for the batch of the last successful verification – whatever happened in between.**
For every history `ops` (proposals accepted or rejected, re-proposals with the same or another ID, sign
requests that failed or succeeded, finalisations, unstaging) followed by a sign request that returns
signatures: the independent scan of the history finds a last successfully verified, not yet finalised batch
`b`, it satisfied the verifier, and the signatures are exactly those for `b` (one per diff, over `b.tx`). -/
theorem C05_release_is_for_last_ok_validate (verifyOk : St → Batch → Bool) (accts : List Acct) (orders : List Ord)
    (ops : List Op) (f : Faults) (ns : List Key) (pv : List Out) (S : List Sig) (N : List Key)
    (h : (step verifyOk (run verifyOk (initSt accts orders) ops).1 (.sign f ns pv)).2 = .sign (.ok S N)) :
    ∃ b, lastOkValidate (ops.zip (run verifyOk (initSt accts orders) ops).2) = some b ∧
      (∃ s0, verifyOk s0 b = true) ∧
      Forall2 (SigFor (run verifyOk (initSt accts orders) ops).1.db b.tx pv) b.diffs S := by
  obtain ⟨hp, hv⟩ := pending_is_lastOkValidate verifyOk accts orders ops
  obtain ⟨b0, hb0, _, hss⟩ := step_sign_ok verifyOk _ f ns pv S N h
  rw [hb0] at hp
  obtain ⟨bl, hl, hc⟩ := Option.map_eq_some_iff.1 hp.symm
  exact ⟨bl, hl, hv bl hl, (hss.of_core hc.symm).sigs⟩

/-- **Nothing is signed without an outstanding verified batch**: if the scan of the history finds no
successfully verified batch that has not been finalised since (never any, all rejected, or the last one was
finalised), every sign request – with any faults and any Sign-message data – releases nothing (in the model
it is the nil-dereference crash of `batchSigner.Sign`). -/
theorem C05_no_release_without_verified_batch (verifyOk : St → Batch → Bool) (accts : List Acct)
    (orders : List Ord) (ops : List Op) (f : Faults) (ns : List Key) (pv : List Out)
    (h : lastOkValidate (ops.zip (run verifyOk (initSt accts orders) ops).2) = none) :
    (step verifyOk (run verifyOk (initSt accts orders) ops).1 (.sign f ns pv)).2 = .sign .panic := by
  obtain ⟨hp, _⟩ := pending_is_lastOkValidate verifyOk accts orders ops
  rw [h] at hp
  rw [step, batchSign_no_pending _ f (Option.map_eq_none_iff.1 ((attachAux_core _ ns pv).trans hp))]

/-- a rejected proposal – in particular a rejected re-proposal with the ID of the pending batch – changes
nothing: the pending batch, hence what a following sign request signs, stays the earlier verified one -/
theorem C05_rejected_proposal_changes_nothing (verifyOk : St → Batch → Bool) (s : St) (b : Batch)
    (h : (validate verifyOk s b).2 ≠ none) : (validate verifyOk s b).1 = s := by
  rcases validate_cases verifyOk s b with ⟨e, he⟩ | ⟨_, he⟩
  · rw [he]
  · exact absurd (congrArg Prod.snd he) h

/-- an accepted proposal replaces the pending batch – also when it carries the ID of the batch pending so
far (same-ID re-proposal): from then on only the new version is signed -/
theorem C05_accepted_proposal_replaces_pending (verifyOk : St → Batch → Bool) (s : St) (b : Batch)
    (h : (validate verifyOk s b).2 = none) :
    (validate verifyOk s b).1.pending = some b ∧ verifyOk s b = true ∧ (validate verifyOk s b).1.db = s.db := by
  rcases validate_cases verifyOk s b with ⟨e, he⟩ | ⟨hv, he⟩
  · rw [he] at h
    cases h
  · rw [he]
    exact ⟨rfl, hv, rfl⟩

namespace Ex
def accts : List Acct := [⟨1, 10, 0, 20, 5000⟩, ⟨2, 11, 1, 21, 5000⟩]
def orders : List Ord := [⟨1, 1, [], []⟩, ⟨2, 2, [], [3]⟩]
def b : Batch :=
  { id := 5, tid := 1, tx := ⟨[99, 10, 11], [30, 31, 32], 0⟩,
    diffs := [⟨1, some 40, 0, some 31, 4900⟩, ⟨2, none, 1, none, 0⟩], matched := [(1, 1), (2, 1)],
    vflag := true, snapOk := true, nonces := [], prevOuts := [] }
/-- a re-proposal with the same id that the verifier rejects -/
def bBad : Batch := { b with tid := 2, tx := ⟨[99, 10, 11], [30, 31, 33], 0⟩, vflag := false }
def hist : List Op := [.validate b, .validate bBad, .sign noFaults [2] [50, 20, 21]]
def env : HEnv := { parseOk := true, chanOk := true, sendOk := true, faults := noFaults,
                    nonces := [2], prev := [50, 20, 21] }
end Ex

/- Instance search gives up (size bound) on `DecidableEq` of the nested tuple type in the next example; with this
component supplied it succeeds. -/
local instance : DecidableEq (List (Key × Bool × Nat × List Out)) := inferInstance

/-- valid proposal → rejected re-proposal → sign: one release, of two signatures (one p2wsh, one taproot),
for the first batch; the history meets the hypotheses of the three history theorems -/
example : ((grun (fun _ b => b.vflag) (initSt Ex.accts Ex.orders) ⟨none, none, []⟩ Ex.hist).2.log.map
    (fun r => (r.batch.map (·.tid), r.sigs.map (fun σ => (σ.key, σ.msg.taproot, σ.msg.idx, σ.msg.outs)),
               r.staged.map (·.id)))) =
    [(some 1, [(1, false, 1, [30, 31, 32]), (2, true, 2, [30, 31, 32])], some 5)] := by decide +kernel

/-- same-ID re-proposal that IS accepted, then sign, finalize, sign: the one release is for the second
version (tid 2), and after the finalisation nothing is signed (hypotheses of
`C05_release_is_for_last_ok_validate` / `C05_no_release_without_verified_batch`) -/
example :
    let b2 : Batch := { Ex.b with tid := 2, tx := ⟨[99, 10, 11], [30, 31, 34], 0⟩ }
    let ops : List Op := [.validate Ex.b, .validate b2, .sign noFaults [2] [50, 20, 21], .finalize 5 false]
    let r := run (fun _ b => b.vflag) (initSt Ex.accts Ex.orders) ops
    (lastOkValidate ((ops.take 2).zip (run (fun _ b => b.vflag) (initSt Ex.accts Ex.orders) (ops.take 2)).2)).map (·.tid) = some 2 ∧
    lastOkValidate (ops.zip r.2) = none ∧
    (step (fun _ b => b.vflag) r.1 (.sign noFaults [2] [50, 20, 21])).2 = .sign .panic := by decide +kernel

/-- an account of the pending batch is moved by an RPC between proposal and sign request: nothing is released
(hypotheses of `C05_moved_account_is_not_signed` are met) -/
example : (run (fun _ b => b.vflag) (initSt Ex.accts Ex.orders)
    [.validate Ex.b, .modAcct 1 77 78, .sign noFaults [2] [50, 20, 21]]).2.getLast? =
    some (.sign (.errSign .input)) := by decide +kernel

/-- signer fault at the second signer call: error, nothing staged (hypothesis of
`C05_sign_fail_stages_nothing` is met) -/
example : (step (fun _ b => b.vflag) (step (fun _ b => b.vflag) (initSt Ex.accts Ex.orders) (.validate Ex.b)).1
    (.sign { noFaults with sf := some 1 } [2] [50, 20, 21])).2 = .sign (.errSign .signer) := by decide +kernel

/-- store fault inside the transaction: error (hypotheses of `C05_stage_fail_releases_nothing` /
`C05_store_fault_never_releases` are met) -/
example : (step (fun _ b => b.vflag) (step (fun _ b => b.vflag) (initSt Ex.accts Ex.orders) (.validate Ex.b)).1
    (.sign { noFaults with st := .inside } [2] [50, 20, 21])).2 = .sign .errStore := by decide +kernel

/-- short prevouts with a taproot account: the crash outcome -/
example : (step (fun _ b => b.vflag) (step (fun _ b => b.vflag) (initSt Ex.accts Ex.orders) (.validate Ex.b)).1
    (.sign noFaults [2] [50, 20])).2 = .sign .panic := by decide +kernel

/-- the handler hands over a sign message on the success path (hypothesis of `C05_send_after_sign`) -/
example : ((handleSign (step (fun _ b => b.vflag) (initSt Ex.accts Ex.orders) (.validate Ex.b)).1 Ex.env).trace.reverse.filterMap
    (fun e => match e with
      | .sendSign S _ g => some (S.length + (g.map (·.id)).getD 0) | .batchSign ok => some (if ok then 1 else 0)
      | _ => none)) = [1, 7] := by decide +kernel

/-- … and only a reject when the signer fails (hypothesis of `C05_handler_error_sends_no_sig`) -/
example : (handleSign (step (fun _ b => b.vflag) (initSt Ex.accts Ex.orders) (.validate Ex.b)).1
    { Ex.env with faults := { noFaults with sf := some 0 } }).trace.take 2 =
    [.sendReject, .batchSign false] := by decide +kernel

/-- two transactions differing in one output only (hypothesis of `C05_sig_binds_tx`) -/
example : Ex.b.tx ≠ Ex.bBad.tx ∧ Ex.b.tx.ins = Ex.bBad.tx.ins := by decide +kernel

end Pool.C05
