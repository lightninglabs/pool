import PoolProofs.C08I3Lemmas
import PoolProofs.C08I2Lemmas
/-! C08: I1 (record ↔ latest transaction), I2 (watcher adequacy) and I3 (write before publish) by induction over all op
histories; I4 (the lifecycle tables lie in the documented lifecycle `Legal`; closed is absorbing).  The state switches
of the model (`PoolModel/C08.lean`) are the tables regenerated from the Go source (`Pool.Gen.Lifecycle`), so every
`decide` here is checked against that code. -/
namespace Pool.C08
open Pool.Gen

theorem C08_inv_init (k : Nat) : Inv1 (AState.init k) :=
  ⟨fun a h => by simp [AState.init] at h, fun a h => by simp [AState.init] at h,
   fun t h => by simp [AState.init] at h⟩

theorem C08_I3_init (k : Nat) : Inv3 (AState.init k) :=
  ⟨rfl, fun a t h => by simp [AState.init] at h⟩

theorem C08_step_preserves_I1 (s : AState) (op : Op) (h : Inv1 s) (hop : OpOK s.key op) :
    Inv1 (step s op).1 := Inv1.step h op hop

/-- the C08 alphabet: `recover` is C20's op -/
def Op.plain : Op → Bool
  | .recover _ _ => false
  | _ => true

theorem opOK_plain (k : Nat) (op : Op) (h : op.plain = true) : OpOK k op := by
  cases op with
  | recover => cases h
  | _ => trivial

/-- **C08 / I1 for all histories**: after every sequence of user actions, chain events, direct handler calls, batch
steps, watch-matched calls and restarts, the stored record and the staged copy match their latest transaction. -/
theorem C08_I1_all_histories (s : AState) (ops : List Op) (h : Inv1 s) (hp : ∀ op ∈ ops, op.plain = true) :
    Inv1 (run s ops) :=
  run_preserves (P := Inv1) (fun _ op h hp => Inv1.step h op (opOK_plain _ op hp)) s ops h hp

theorem C08_all_histories (k : Nat) (ops : List Op) (hp : ∀ op ∈ ops, op.plain = true) :
    Inv1 (run (AState.init k) ops) := C08_I1_all_histories _ ops (C08_inv_init k) hp

theorem C08_restart_preserves_I1 (s : AState) (feeOk : Bool) (f : Option (Nat × Nat)) (h : Inv1 s) :
    Inv1 (step s (.restart feeOk f)).1 := Inv1.step h _ trivial

/-- non-vacuity: a reachable record in a live state, where I1's clause says something -/
example :
    let s := run (AState.init 1) [.init 100000 1200 1 1000 (some (7, 1)), .conf 0 1003,
      .modify .deposit ⟨150000, true, 0, 1, 1000, 8, 0, true⟩, .restart true none]
    (s.acct.map (·.state)) = some .pendingUpdate ∧ (s.acct.map (·.outpoint)) = some ⟨8, 0⟩ := by
  decide +kernel

/-- every transition of `HandleAccountConf` is in the documented lifecycle -/
theorem C08_I4_conf_legal (s t : State) (h : confNext s = some t) : Legal s t = true := by
  rw [confNext_eq] at h
  cases s <;> simp at h <;> subst h <;> rfl

/-- every transition of `HandleAccountExpiry` is in the documented lifecycle -/
theorem C08_I4_expiry_legal (s t : State) (h : expiryNext s = .to t) : Legal s t = true := by
  rw [expiryNext_eq] at h
  cases s <;> simp at h <;> subst h <;> rfl

/-- a spend that does not re-create the account output closes the account -/
theorem C08_I4_spend_closes : spendCloseState = .closed := spendCloseState_closed

/-- I4, user actions: deposit / withdraw only on an open account, renewal and closure also on an expired one, fee
bumps only in pending states -/
theorem C08_I4_user_actions (s : State) :
    (accepts Lifecycle.acceptsDepositAccount s = true → s = .open_) ∧
    (accepts Lifecycle.acceptsWithdrawAccount s = true → s = .open_) ∧
    (accepts Lifecycle.acceptsRenewAccount s = true → s = .open_ ∨ s = .expired) ∧
    (accepts Lifecycle.acceptsCloseAccount s = true → s = .open_ ∨ s = .expired) ∧
    (accepts Lifecycle.acceptsBumpAccountFee s = true →
      s = .pendingOpen ∨ s = .pendingUpdate ∨ s = .pendingClosed) := by
  obtain ⟨h1, h2, h3, h4, h5⟩ := accepts_iff s
  exact ⟨h1.mp, h2.mp, h3.mp, h4.mp, h5.mp⟩

/-- the user actions' target states are legal from every state in which they are accepted -/
theorem C08_I4_user_targets (s : State) :
    (accepts Lifecycle.acceptsDepositAccount s = true → Legal s .pendingUpdate = true) ∧
    (accepts Lifecycle.acceptsWithdrawAccount s = true → Legal s .pendingUpdate = true) ∧
    (accepts Lifecycle.acceptsRenewAccount s = true → Legal s .pendingUpdate = true) ∧
    (accepts Lifecycle.acceptsCloseAccount s = true → Legal s .pendingClosed = true) := by
  obtain ⟨h1, h2, h3, h4, -⟩ := accepts_iff s
  refine ⟨fun h => h1.mp h ▸ rfl, fun h => h2.mp h ▸ rfl, fun h => ?_, fun h => ?_⟩
  · rcases h3.mp h with rfl | rfl <;> rfl
  · rcases h4.mp h with rfl | rfl <;> rfl

/-- the batch storer only produces `pendingBatch` (output re-created) or `pendingClosed` (output spent); both are
legal from the states the auctioneer matches (environment assumption A2 of props/C08.json: only open and pending-batch
accounts are matched) and from those they reach by confirmation / expiry before the batch completes -/
theorem C08_I4_batch_targets :
    (∀ r ∈ Lifecycle.storerEnding, State.ofNat? r.2.1 = some (if r.2.2.1 then .pendingBatch else .pendingClosed)) ∧
    (∀ s ∈ [State.open_, .pendingBatch, .expired, .expiredPendingUpdate],
      Legal s .pendingBatch = true ∧ Legal s .pendingClosed = true) :=
  ⟨fun _ => storer_row, by decide⟩

/-- the two moves of `resumeAccount(StateInitiated)` – funded / located, or on recovery not located – are legal -/
theorem C08_I4_initiated_targets : Legal .initiated .pendingOpen = true ∧ Legal .initiated .canceled = true := by
  decide

/-- excluded for a closed account: the auctioneer stages no batch for it (A2), `init` derives a fresh key, and it is
not recovered over -/
def Op.afterClose : Op → Bool
  | .stage _ | .init _ _ _ _ _ | .recover _ _ => false
  | _ => true

/-- **C08 / closed is absorbing**, one step, under A2 (no `stage`) and A1 (fresh batches: a batch is not completed after
a record of it has changed, so nothing is staged for the closed account): user actions are refused; chain events,
completions of other accounts' batches, watch-matched calls and restarts do not move it. -/
theorem C08_closed_absorbing_step (s : AState) (op : Op) (c : ClosedQuiet s) (hop : op.afterClose = true) :
    ClosedQuiet (step s op).1 :=
  ClosedQuiet.handlerInv.step s op c (fun _ _ _ _ _ e => by subst e; cases hop) (fun _ e => by subst e; cases hop)
    fun _ _ e => by subst e; cases hop

theorem C08_closed_absorbing (s : AState) (ops : List Op) (c : ClosedQuiet s)
    (hop : ∀ op ∈ ops, op.afterClose = true) : ClosedQuiet (run s ops) :=
  run_preserves C08_closed_absorbing_step s ops c hop

/-- "a closed account never changes again", without A1 … -/
def C08_closed_full_statement : Prop :=
  ∀ (s : AState) (op : Op), (∃ a, s.acct = some a ∧ a.state = .closed) → op.afterClose = true →
    ∃ a, (step s op).1.acct = some a ∧ a.state = .closed

def staleWitness : AState :=
  let a : Acct := { state := .closed, outpoint := ⟨1, 0⟩, value := 0, expiry := 1200, version := 0, bk := 0,
                    heightHint := 1100, latestTx := none }
  { key := 1, acct := some a,
    staged := some { a with state := .pendingBatch, outpoint := ⟨2, 0⟩, value := 50000, bk := 1 } }

/-- … is false: a batch staged while the account was open and completed after it was closed (outside A1) overwrites
the closed record – `MarkBatchComplete` applies the staged copy unconditionally.  Replayed on the Go code:
corpus/C08/stale-staged-batch.json. -/
theorem C08_stale_batch_revives_closed : ¬ C08_closed_full_statement := by
  intro h
  obtain ⟨a, ha, hs⟩ := h staleWitness .completeOnly ⟨_, rfl, rfl⟩ rfl
  simp [step, completeOnly, staleWitness, write, Acct.stored] at ha
  subst ha
  simp at hs

/-- non-vacuity of `C08_closed_absorbing`: a closed, quiet state is reachable -/
example :
    let s := run (AState.init 1) [.init 100000 1200 0 1000 (some (7, 0)), .conf 0 1003,
      .close 1004 9 true true, .spend 0 .latest 1005]
    (s.acct.map (·.state)) = some .closed ∧ s.staged = none := by decide +kernel

/-- I2 on the tables: the `resumeAccount` clause of a state (restart, watch-matched, a spend that re-creates the
output) registers the confirmation watcher if the state waits for a confirmation, the spend (+ expiry) watcher if it
waits for a spend; `HandleAccountConf` arms spend + expiry through `handleStateOpen` after its store write. -/
theorem C08_I2_resume_adequate (s : State) :
    (waitsForConf s = true → ∃ acts, resumeActs s = some acts ∧ acts.contains "WatchAccountConf" = true) ∧
    (s = .open_ → ∃ acts, resumeActs s = some acts ∧ acts.contains "handleStateOpen" = true) ∧
    ((s = .expired ∨ s = .pendingClosed) →
      ∃ acts, resumeActs s = some acts ∧ acts.contains "WatchAccountSpend" = true) ∧
    Lifecycle.handleStateOpenCalls.contains "WatchAccountSpend" = true ∧
    Lifecycle.handleStateOpenCalls.contains "WatchAccountExpiration" = true ∧
    callsBefore Lifecycle.handleConfCalls "UpdateAccount" "handleStateOpen" = true ∧
    -- `(false,false,0)`: not as a restart, not as a recovery
    callsBefore Lifecycle.watchMatchedAccountsCalls "CancelAccountSpend" "resumeAccount(false,false,0)" = true ∧
    callsBefore Lifecycle.watchMatchedAccountsCalls "CancelAccountConf" "resumeAccount(false,false,0)" = true ∧
    Lifecycle.startCalls.contains "resumeAccount(true,false,feeRate)" = true := by
  obtain ⟨acts, hacts, hc, hh, hs, -, -, -⟩ := resumeActs_spec s
  refine ⟨fun h => ⟨acts, hacts, hc.trans h⟩, fun h => ⟨acts, hacts, ?_⟩, fun h => ⟨acts, hacts, ?_⟩, by decide +kernel⟩
  · rw [hh, h]; rfl
  · rw [hs]; rcases h with rfl | rfl <;> rfl

/-- **I2 after a restart**: if the start-up resumption of the account succeeds, the account is watched for the event
its state waits for (`Adq`) – the new manager starts from an empty watcher registry -/
theorem C08_I2_restart (s : AState) (fee : Bool) (f : Option (Nat × Nat))
    (hok : (step s (.restart fee f)).2 = .ok) : Inv2 (step s (.restart fee f)).1 := by
  cases hacct : s.acct with
  | none =>
    simp only [step, hacct]
    exact inv2_none rfl
  | some a =>
    simp only [step, hacct] at hok ⊢
    exact resume_inv2 _ a _ _ _ _ (fun _ => rfl) (Or.inl hok)

/-- **I2 after WatchMatchedAccounts** (batch finalisation): both watchers are cancelled and re-armed -/
theorem C08_I2_watchMatched (s : AState) (hok : (step s .watchMatched).2 = .ok) :
    Inv2 (step s .watchMatched).1 :=
  watchMatched_cases (P := fun x => x.2 = .ok → Inv2 x.1) s (fun _ => nofun)
    (fun a _ ha hs hok => resume_inv2 _ a _ _ _ _ (fun _ => hs.acct.trans ha) (Or.inl hok)) hok

theorem C08_I2_init (s : AState) (v e ver h : Nat) (f : Option (Nat × Nat))
    (hok : (step s (.init v e ver h f)).2 = .ok) : Inv2 (step s (.init v e ver h f)).1 := by
  simp only [step, initAccount] at hok ⊢
  exact resume_inv2 _ _ _ _ _ _ (fun hne => absurd rfl hne) (Or.inl hok)

/-- **I2 is preserved by a confirmation handled in any state** (where it moves the account, `handleStateOpen` arms
spend + expiry) -/
theorem C08_I2_conf (s : AState) (h : Nat) (i2 : Inv2 s) : Inv2 (step s (.confDirect h)).1 :=
  handleConf_inv2 s s.w h i2 rfl rfl

theorem C08_step_preserves_I2 (s : AState) (op : Op) (h1 : Inv1 s) (h2 : Inv2 s) (henv : EnvOK s op) :
    Inv2 (step s op).1 := Inv2.step h2 h1 op henv

def EnvHist : AState → List Op → Prop
  | _, [] => True
  | s, op :: ops => EnvOK s op ∧ op.plain = true ∧ EnvHist (step s op).1 ops

/-- joint induction: I2 and I3 use I1 -/
theorem C08_I1_I2_I3_all_histories (s : AState) (ops : List Op) (h1 : Inv1 s) (h2 : Inv2 s) (h3 : Inv3 s)
    (he : EnvHist s ops) : Inv1 (run s ops) ∧ Inv2 (run s ops) ∧ Inv3 (run s ops) := by
  induction ops generalizing s with
  | nil => exact ⟨h1, h2, h3⟩
  | cons op ops ih =>
    obtain ⟨henv, hp, hrest⟩ := he
    have hop := opOK_plain s.key op hp
    exact ih _ (Inv1.step h1 op hop) (Inv2.step h2 h1 op henv) (Inv3.step h3 h1 op hop) hrest

/-- **C08 / I2 for all histories**: after every history of user actions, confirmations, admissible spend notifications
on any live watcher, direct handler calls, blocks, batch steps (a bare completion finding the staged copy watched, see
`EnvOK`), watch-matched calls and restarts, the stored account is watched for the on-chain event its state waits for. -/
theorem C08_I2_all_histories (k : Nat) (ops : List Op) (he : EnvHist (AState.init k) ops) :
    Inv2 (run (AState.init k) ops) :=
  (C08_I1_I2_I3_all_histories _ ops (C08_inv_init k) (inv2_none rfl) (C08_I3_init k) he).2.1

/-- non-vacuity of `EnvHist` -/
example : EnvHist (AState.init 1) [.init 100000 1200 0 1000 (some (7, 0)), .restart true none, .conf 0 1003,
    .modify .renew ⟨99000, true, 1300, 0, 1004, 8, 0, true⟩, .block 1400, .confDirect 1401, .restart true none,
    .close 1402 9 true true, .watchMatched] := by
  simp [EnvHist, EnvOK, Op.plain]

/-- non-vacuity: restart of an open account re-arms spend and expiry watchers -/
example :
    let s := (step (run (AState.init 1) [.init 100000 1200 0 1000 (some (7, 0)), .conf 0 1003]) (.restart true none)).1
    s.w.spendRegs.map (·.op) = [⟨7, 0⟩] ∧ s.w.expiry = some 1200 := by decide +kernel

/-- a renewal changes the expiry an open account is tracked under, so `RenewAccount` has to re-register it with the
expiry watcher; `handleStateOpen` does so after every confirmation (`C08_I2_resume_adequate`) -/
theorem C08_renew_rearms_expiry : Lifecycle.renewAccountCalls.contains "WatchAccountExpiration" = true := by
  decide +kernel

theorem chk_spec (w : List Tx) (l : List Effect) (h : chk w l = true) (l1 l2 : List Effect) (t : Tx)
    (hl : l = l1 ++ Effect.publish t :: l2) : t ∈ w ∨ ∃ a, Effect.write a ∈ l1 ∧ a.latestTx = some t := by
  subst hl
  simp only [chk_append, chk, Bool.and_eq_true, List.contains_iff_mem] at h
  exact mem_wr_iff.mp h.2.1

/-- I1 is what the pending-open rebroadcast on restart needs -/
theorem C08_step_preserves_I3 (s : AState) (op : Op) (h1 : Inv1 s) (h3 : Inv3 s) (hop : OpOK s.key op) :
    Inv3 (step s op).1 := Inv3.step h3 h1 op hop

theorem C08_I1_I3_all_histories (s : AState) (ops : List Op) (h1 : Inv1 s) (h3 : Inv3 s)
    (hp : ∀ op ∈ ops, op.plain = true) : Inv1 (run s ops) ∧ Inv3 (run s ops) :=
  run_preserves (P := fun s => Inv1 s ∧ Inv3 s) (fun s op h hp =>
    have hop := opOK_plain s.key op hp
    ⟨Inv1.step h.1 op hop, Inv3.step h.2 h.1 op hop⟩) s ops ⟨h1, h3⟩ hp

/-- **C08 / I3 for all histories**: in the effect trace of every history every `PublishTransaction` of a transaction
is preceded by a store write of a record whose latest transaction it is. -/
theorem C08_I3_all_histories (k : Nat) (ops : List Op) (hp : ∀ op ∈ ops, op.plain = true)
    (l1 l2 : List Effect) (t : Tx) (hl : (run (AState.init k) ops).trace = l1 ++ Effect.publish t :: l2) :
    ∃ a, Effect.write a ∈ l1 ∧ a.latestTx = some t := by
  have h := (C08_I1_I3_all_histories _ ops (C08_inv_init k) (C08_I3_init k) hp).2.ok
  rcases chk_spec [] _ h l1 l2 t hl with hw | hw
  · simp at hw
  · exact hw

/-- non-vacuity: a history with a rebroadcast on restart and a published closure -/
example :
    let s := run (AState.init 1) [.init 100000 1200 0 1000 (some (7, 0)), .restart true none, .conf 0 1003,
      .close 1004 9 true true, .restart true none]
    (s.trace.filter (fun e => match e with | .publish _ => true | _ => false)).length = 3 := by decide +kernel

/-- I3 on the call lists: `spendAccount` signs, calls `UpdateAccount`, then publishes, and only through
`maybeBroadcastTx`; the multi-sig branch of `HandleAccountSpend` completes the batch before it resumes the account -/
theorem C08_I3_call_order :
    callsBefore Lifecycle.spendAccountCalls "signSpendTx" "UpdateAccount" = true ∧
    callsBefore Lifecycle.spendAccountCalls "UpdateAccount" "maybeBroadcastTx" = true ∧
    Lifecycle.spendAccountCalls.contains "PublishTransaction" = false ∧
    -- `break`: an expiry spend goes straight to the closing write
    Lifecycle.handleSpendKinds = [("expiry", "break"), ("multisig", "calls"), ("default", "return-error")] ∧
    callsBefore Lifecycle.handleSpendMultisigCalls "PendingBatch" "MarkBatchComplete" = true ∧
    callsBefore Lifecycle.handleSpendMultisigCalls "MarkBatchComplete" "resumeAccount(false,false,0)" = true := by
  decide +kernel

/-- **staged copy follows the whole diff**: the extended expiry and the upgraded version of a re-created account
output are decided independently of each other (`storerOptionalExclusive = false`), so the staged record of a diff
that carries both has both – what the batch verifier (C02/C03) derived the batch transaction's output script from. -/
theorem C08_staged_copy_follows_diff (s : AState) (a : Acct) (g : StageArgs)
    (ha : s.acct = some a) (hend : g.ending = 0) :
    ∃ b, (stage s g).1.staged = some b ∧ (stage s g).2 = .ok ∧
      b.expiry = (if g.supportsExt && g.newExpiry != 0 then g.newExpiry else a.expiry) ∧
      b.version = (if g.supportsUpgrade && g.newVersion > a.version then g.newVersion else a.version) ∧
      b.outpoint = { txid := g.txid, idx := g.idx } ∧ b.bk = a.bk + 1 ∧ b.state = .pendingBatch := by
  have hx : Lifecycle.storerOptionalExclusive = false := by decide
  have hl : Lifecycle.storerEnding.lookup 0 = some (8, true, true) := by decide
  have h8 : State.ofNat? 8 = some .pendingBatch := by decide
  simp [stage, ha, hend, hl, hx, h8]

/-- non-vacuity: a diff that carries both -/
example :
    let s := run (AState.init 1) [.init 100000 1200 0 1000 (some (7, 0)), .conf 0 1003]
    let g : StageArgs := { ending := 0, txid := 9, idx := 0, endBal := 50000, newExpiry := 5000, newVersion := 1,
                           supportsExt := true, supportsUpgrade := true, height := 1004 }
    ((stage s g).1.staged.map fun b => (b.expiry, b.version)) = some (5000, 1) := by decide +kernel

/-- I3 for a closure: it appends the write of the pending-closed record carrying the closing transaction, then (if
signed) its publication, and nothing else -/
theorem C08_I3_close_write_before_publish (s : AState) (a : Acct) (h txid : Nat) (sg : Bool)
    (ha : s.acct = some a) (hacc : accepts Lifecycle.acceptsCloseAccount a.state = true) :
    ∃ a' t, a'.latestTx = some t ∧ a'.state = .pendingClosed ∧
      (close s h txid true sg).1.trace =
        s.trace ++ [.write a'] ++ (if sg then [.publish t] else []) := by
  refine close_cases (P := fun x => ∃ a' t, a'.latestTx = some t ∧ a'.state = .pendingClosed ∧
      x.1.trace = s.trace ++ [.write a'] ++ (if sg then [.publish t] else [])) s h txid true sg
    (fun refused => nomatch refused a ha hacc) fun b t _ _ ht =>
      ⟨{ b with value := 0, state := .pendingClosed, heightHint := h, latestTx := some t }, t, rfl, rfl, ?_⟩
  subst ht
  cases sg <;> simp [maybeBroadcast, write, Acct.stored]

end Pool.C08
