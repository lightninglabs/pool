import PoolProofs.C17Spec
/-! C17, acceptor part: the registry as an association list with unique keys, and the two bits of `acceptChannel`'s
response for a registered pending id. -/
namespace Pool.C17

def Keys (m : Expected) : List Bytes := m.map Prod.fst

def NoDupKeys (m : Expected) : Prop := (Keys m).Nodup

theorem lookup_none_of_not_mem (m : Expected) (pid : Bytes) (h : pid ∉ Keys m) : lookup m pid = none := by
  induction m with
  | nil => rfl
  | cons e rest ih =>
    obtain ⟨p, b⟩ := e
    have h' : ¬ (pid = p ∨ pid ∈ Keys rest) := fun hh => h (List.mem_cons.mpr hh)
    rw [lookup, if_neg fun hh => h' (Or.inl hh.symm)]
    exact ih fun hh => h' (Or.inr hh)

theorem lookup_filter (m : Expected) (f : Bytes × ExpBid → Bool) (pid : Bytes) (hnd : NoDupKeys m) :
    lookup (m.filter f) pid = (lookup m pid).bind (fun b => if f (pid, b) then some b else none) := by
  induction m with
  | nil => rfl
  | cons e rest ih =>
    obtain ⟨p, b⟩ := e
    obtain ⟨hnm, hrest⟩ := List.nodup_cons.mp hnd
    rw [List.filter_cons]
    by_cases hp : p = pid
    · subst hp
      -- the entry for `pid`; no later entry has this key, so dropping it leaves none
      cases hf : f (p, b)
      · simp [lookup, hf, ih hrest, lookup_none_of_not_mem rest p hnm]
      · simp [lookup, hf]
    · cases hf : f (p, b) <;> simp [lookup, hp, ih hrest]

theorem nodup_filter (m : Expected) (f : Bytes × ExpBid → Bool) (h : NoDupKeys m) : NoDupKeys (m.filter f) :=
  List.Pairwise.sublist (List.filter_sublist.map Prod.fst) h

theorem nodup_registered (m : Expected) (pid : Bytes) (bid : ExpBid) (h : NoDupKeys m) :
    NoDupKeys (shimRegistered m pid bid) := by
  refine List.nodup_cons.mpr ⟨?_, nodup_filter m _ h⟩
  intro hmem
  obtain ⟨e, he, hp⟩ := List.mem_map.mp hmem
  simpa [hp] using (List.mem_filter.mp he).2

theorem nodup_step (m : Expected) (op : RegOp) (h : NoDupKeys m) : NoDupKeys (regStep m op) := by
  cases op with
  | reg pid bid => exact nodup_registered m pid bid h
  | rm n => exact nodup_filter m _ h

theorem nodup_foldl (ops : List RegOp) (m : Expected) (h : NoDupKeys m) : NoDupKeys (ops.foldl regStep m) := by
  induction ops generalizing m with
  | nil => exact h
  | cons op rest ih => exact ih _ (nodup_step m op h)

theorem nodup_run (ops : List RegOp) : NoDupKeys (regRun ops) :=
  nodup_foldl ops [] List.nodup_nil

theorem lookup_registered (m : Expected) (pid : Bytes) (bid : ExpBid) (q : Bytes) (h : NoDupKeys m) :
    lookup (shimRegistered m pid bid) q = if pid = q then some bid else lookup m q := by
  rw [shimRegistered, lookup]
  split
  · rfl
  · rename_i hq
    rw [lookup_filter m _ q h]
    cases lookup m q with
    | none => rfl
    | some b => simp [Ne.symm hq]

theorem lookup_removed (m : Expected) (n : Bytes) (q : Bytes) (h : NoDupKeys m) :
    lookup (shimRemoved m n) q = (lookup m q).bind (fun b => if b.nonce = n then none else some b) := by
  rw [shimRemoved, lookup_filter m _ q h]
  cases lookup m q with
  | none => rfl
  | some b => by_cases hb : b.nonce = n <;> simp [hb]

theorem lookup_step (m : Expected) (hist : List RegOp) (op : RegOp) (hnd : NoDupKeys m)
    (hm : ∀ pid, lookup m pid = lastReg hist pid) (pid : Bytes) :
    lookup (regStep m op) pid = lastReg (op :: hist) pid := by
  cases op with
  | reg p b =>
    simp only [regStep, lastReg]
    rw [lookup_registered _ _ _ _ hnd, hm]
  | rm n =>
    simp only [regStep, lastReg]
    rw [lookup_removed _ _ _ hnd, hm]

theorem lookup_foldl (ops : List RegOp) (m : Expected) (hist : List RegOp) (hnd : NoDupKeys m)
    (hm : ∀ pid, lookup m pid = lastReg hist pid) (pid : Bytes) :
    lookup (ops.foldl regStep m) pid = lastReg (ops.reverse ++ hist) pid := by
  induction ops generalizing m hist with
  | nil => simpa using hm pid
  | cons op rest ih =>
    simp only [List.foldl_cons, List.reverse_cons, List.append_assoc, List.singleton_append]
    exact ih (regStep m op) (op :: hist) (nodup_step m op hnd) (lookup_step m hist op hnd hm)

theorem isPrivate_iff (flags : Nat) : isPrivateChan flags = true ↔ flags % 2 = 0 := by
  unfold isPrivateChan ffAnnounceChannel
  rw [Nat.and_one_is_mod, Nat.mod_mod_of_dvd flags (by decide : 2 ∣ 256), beq_iff_eq]

theorem announce_iff (flags : Nat) (un : Bool) :
    (flags % 2 = 1 ↔ un = false) ↔ isPrivateChan flags = un := by
  have h := isPrivate_iff flags
  cases hp : isPrivateChan flags <;> cases un <;> simp [hp] at h ⊢ <;> omega

theorem checkCommitType_none_iff (ct : Nat) (c : Option Nat) :
    checkCommitType ct c = none ↔ CommitTypeOK ct c := by
  unfold checkCommitType CommitTypeOK
  rw [show Gen.C17.chanTypePeerDependent = 0 from rfl, show Gen.C17.chanTypeScriptEnforced = 1 from rfl,
    show Gen.C17.chanTypeSimpleTaproot = 2 from rfl]
  by_cases h0 : ct = 0
  · simp [h0]
  by_cases h1 : ct = 1
  · subst h1
    cases c <;> simp
  by_cases h2 : ct = 2
  · subst h2
    cases c <;> simp
  · simp [h0, h1, h2]

/-- what the acceptor itself tests against the registered bid: `Demanded`, except that a zero-conf open is let through
for a bid that did not ask for one (lnd fails that flow later, see `admitted`) -/
def Accepts (bid : ExpBid) (req : AccReq) : Prop :=
  Int.ofNat (toU64 req.pushAmt / 1000) = bid.selfChanBalance ∧
  CommitTypeOK bid.channelType req.commitType ∧
  (req.channelFlags % 2 = 1 ↔ bid.unannounced = false) ∧
  (bid.zeroConf = true → req.wantsZeroConf = true)

theorem acceptChannel_registered (m : Expected) (req : AccReq) (bid : ExpBid) (h : lookup m req.pid = some bid) :
    ((acceptChannel m req).accept = true ↔ Accepts bid req) ∧
    ((acceptChannel m req).zeroConf = true ↔ (acceptChannel m req).accept = true ∧ bid.zeroConf = true) := by
  unfold acceptChannel Accepts
  rw [h, ← checkCommitType_none_iff, announce_iff,
    show Int.ofNat (toU64 req.pushAmt / 1000) = msatToSat req.pushAmt from rfl]
  dsimp only
  -- the spec's conditions are the tests the code makes: walk its decision tree
  generalize msatToSat req.pushAmt = q, checkCommitType bid.channelType req.commitType = c,
    isPrivateChan req.channelFlags = pr
  by_cases hp : bid.selfChanBalance = q
  · cases c with
    | some e => simp [hp, reject]
    | none =>
      by_cases ha : pr = bid.unannounced
      · cases bid.zeroConf <;> cases req.wantsZeroConf <;> simp [hp, ha, reject]
      · simp [hp, ha, reject]
  · simp [hp, Ne.symm hp, reject]

end Pool.C17
