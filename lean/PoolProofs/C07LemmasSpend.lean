import PoolProofs.C07Lemmas
/-! `spendAccount` and the four operations.  `RefusedOr P res`: the result either is a bare `refuse r` – nothing has left
the manager – or has passed every guard, and `P res` says which call of the next stage (`spendCommit`, resp.
`spendAccount`) it then is; an accepted operation and one that left any effect are both of the second kind. -/
namespace Pool.C07
open Pool.Gen.C07

def Effect.isModify : Effect → Bool
  | .auctioneerModify .. => true
  | _ => false

inductive RefusedOr (P : OpResult → Prop) : OpResult → Prop
  | refused (r : Refusal) : RefusedOr P (refuse r)
  | passed {res : OpResult} (h : P res) : RefusedOr P res

theorem RefusedOr.passed_of_accepted {P : OpResult → Prop} {res : OpResult} (hc : RefusedOr P res)
    (h : res.refusal = none) : P res := by
  cases hc with
  | refused r => cases h
  | passed hp => exact hp

theorem RefusedOr.passed_of_effect {P : OpResult → Prop} {res : OpResult} (hc : RefusedOr P res)
    (h : res.trace ≠ []) : P res := by
  cases hc with
  | refused r => exact absurd rfl h
  | passed hp => exact hp

theorem RefusedOr.trace_nil_of_not_passed {P : OpResult → Prop} {res : OpResult} (hc : RefusedOr P res)
    (h : ¬ P res) : res.trace = [] := by
  cases hc with
  | refused r => rfl
  | passed hp => exact absurd hp h

/-- what `spendCommit` returns, `pre` being the request to the auctioneer: a fault before the write leaves `pre`, one at
publication `pre`, the write and the publication -/
inductive Committed (pre : List Effect) (stored : Account) (tx : Tx) : OpResult → Prop
  | auctioneerFail : Committed pre stored tx ⟨some .auctioneerFail, pre, none, none⟩
  | storeFail : Committed pre stored tx ⟨some .storeFail, pre, none, none⟩
  | publishFail : Committed pre stored tx ⟨some .publishFail, pre ++ [.storeWrite stored, .publish tx], none, none⟩
  | done : Committed pre stored tx ⟨none, pre ++ [.storeWrite stored, .publish tx], some stored, some tx⟩

theorem Committed.eq_of_accepted {pre : List Effect} {stored : Account} {tx : Tx} {res : OpResult}
    (hc : Committed pre stored tx res) (h : res.refusal = none) :
    res = ⟨none, pre ++ [.storeWrite stored, .publish tx], some stored, some tx⟩ := by
  cases hc with
  | done => rfl
  | _ => cases h

theorem Committed.fault {pre : List Effect} {stored : Account} {tx : Tx} {res : OpResult} {r : Refusal}
    (hc : Committed pre stored tx res) (h : res.refusal = some r) :
    r = .auctioneerFail ∨ r = .storeFail ∨ r = .publishFail := by
  cases hc <;> cases h <;> simp

/-- Here and below the result is a variable `res` with `hres : res = …`: a caller hands over the equation it holds (the
`eq` field of `ModifyPassed` …) as it stands, and its hypothesis on `res` then speaks of the operation itself. -/
theorem spendCommit_cases {a : Account} {wt : Nat} {oi : Option Nat} {mods : List Modifier} {tx : Tx}
    {best : UInt32} {f : Faults} {res : OpResult} (hres : res = spendCommit a wt oi mods tx best f) :
    ∃ pre : List Effect, Committed pre (applyMods a (mods ++ [.heightHint best, .latestTx])) tx res ∧
      pre.length = (if wt = wt_multiSigWitness ∨ wt = wt_muSig2Taproot then 1 else 0) ∧
      ∀ e ∈ pre, e.isModify = true := by
  subst hres
  unfold spendCommit
  refine ⟨_, guard_cases .auctioneerFail fun _ => guard_cases .storeFail fun _ =>
    guard_cases .publishFail fun _ => .done, ?_, ?_⟩
  · by_cases hc : wt = wt_multiSigWitness ∨ wt = wt_muSig2Taproot
    · rw [if_pos (decide_eq_true hc), if_pos hc]
      cases oi <;> rfl
    · rw [if_neg (by simpa using hc), if_neg hc]; rfl
  · intro e he
    split at he
    · cases oi <;> simp at he <;> subst he <;> rfl
    · cases he

/-- what `spendPrepare` established when it let a spend through with lock time `lock`, and the `spendCommit` call the
result `res` then is -/
structure Prepared (so : ScriptOf) (a : Account) (action : Action) (tx : Tx) (wt : Nat) (mods : List Modifier)
    (best : UInt32) (f : Faults) (lock : Nat) (res : OpResult) : Prop where
  sane : sanityCheck a { tx with lockTime := lock } wt = .ok ()
  path : ((wt = wt_multiSigWitness ∨ wt = wt_muSig2Taproot) ∧ lock = 0) ∨
    ((wt = wt_expiryWitness ∨ wt = wt_expiryTaproot) ∧ action = .close ∧ lock = best.toNat)
  located : action ≠ .close → ∃ idx, locateScript ((applyMods a mods).output so).script tx.outputs = some idx ∧
    res = spendCommit a wt (some idx) (mods ++ [.outPoint idx]) { tx with lockTime := lock } best f
  unlocated : action = .close → res = spendCommit a wt none mods { tx with lockTime := lock } best f

theorem spendPrepare_ok {so : ScriptOf} {a : Account} {action : Action} {tx : Tx} {wt : Nat}
    {mods : List Modifier} {best : UInt32} {oi : Option Nat} {mods' : List Modifier} {tx' : Tx}
    (h : spendPrepare so a action tx wt mods best = .ok (oi, mods', tx')) (f : Faults) :
    ∃ lock, Prepared so a action tx wt mods best f lock (spendCommit a wt oi mods' tx' best f) := by
  unfold spendPrepare at h
  dsimp only at h
  split at h
  · cases h
  rename_i oi0 m0 hloc
  split at h
  · cases h
  rename_i lock hlock
  split at h
  · cases h
  rename_i hs
  cases h
  refine ⟨lock, hs, ?_, fun hact => ?_, fun hact => ?_⟩
  · by_cases hexp : wt = wt_expiryWitness ∨ wt = wt_expiryTaproot
    · rw [if_pos hexp] at hlock
      obtain ⟨hcl, hlock⟩ := ite_error_eq_ok.mp hlock
      cases hlock
      exact .inr ⟨hexp, Decidable.not_not.mp hcl, rfl⟩
    · rw [if_neg hexp] at hlock
      obtain ⟨hcoop, hlock⟩ := ite_else_error_eq_ok.mp hlock
      cases hlock
      exact .inl ⟨hcoop, rfl⟩
  · rw [if_pos hact] at hloc
    split at hloc
    · cases hloc
    · rename_i idx hl
      cases hloc
      exact ⟨idx, hl, rfl⟩
  · rw [if_neg (not_not_intro hact)] at hloc
    cases hloc
    rfl

theorem spendAccount_cases {so : ScriptOf} {a : Account} {action : Action} {tx : Tx} {wt : Nat}
    {mods : List Modifier} {best : UInt32} {f : Faults} {res : OpResult}
    (hres : res = spendAccount so a action tx wt mods best f) :
    RefusedOr (fun res => ∃ lock, Prepared so a action tx wt mods best f lock res) res := by
  subst hres
  unfold spendAccount
  split
  · exact .refused _
  · rename_i hp
    exact .passed (spendPrepare_ok hp f)

theorem spendAccount_refusal_trace {so : ScriptOf} {a : Account} {action : Action} {tx : Tx} {wt : Nat}
    {mods : List Modifier} {best : UInt32} {f : Faults} {r : Refusal}
    (h : (spendAccount so a action tx wt mods best f).refusal = some r)
    (h1 : r ≠ .auctioneerFail) (h2 : r ≠ .storeFail) (h3 : r ≠ .publishFail) :
    (spendAccount so a action tx wt mods best f).trace = [] := by
  refine (spendAccount_cases rfl).trace_nil_of_not_passed fun ⟨_, p⟩ => ?_
  have hcommit {oi mods' tx'}
      (heq : spendAccount so a action tx wt mods best f = spendCommit a wt oi mods' tx' best f) : False :=
    let ⟨_, hc, _⟩ := spendCommit_cases heq
    (hc.fault h).elim h1 fun h' => h'.elim h2 h3
  by_cases hact : action = .close
  · exact hcommit (p.unlocated hact)
  · obtain ⟨_, _, heq⟩ := p.located hact
    exact hcommit heq

theorem spendAccount_modify_ok {so : ScriptOf} {a : Account} {action : Action} {tx : Tx} {wt : Nat} {v : Int}
    {ne : Option UInt32} {nv : Nat} {best : UInt32} {f : Faults} {res : OpResult} (hact : action ≠ .close)
    (hres : res = spendAccount so a action tx wt
      ((createNewAccountOutput so a v ne nv).2 ++ [.state StatePendingUpdate]) best f)
    (h : res.refusal = none) :
    ∃ (idx : Nat) (pre : List Effect) (acct' : Account),
      acct' = { a with value := v, batchCtr := a.batchCtr + 1, expiry := ne.getD a.expiry, version := max a.version nv,
                       state := StatePendingUpdate, outPoint := ⟨selfHash, idx⟩, heightHint := best } ∧
      (createNewAccountOutput so a v ne nv).1 = acct'.output so ∧
      (wt = wt_multiSigWitness ∨ wt = wt_muSig2Taproot) ∧
      locateScript (acct'.output so).script tx.outputs = some idx ∧
      sanityCheck a { tx with lockTime := 0 } wt = .ok () ∧
      pre.length = 1 ∧ (∀ e ∈ pre, e.isModify = true) ∧
      res = ⟨none, pre ++ [.storeWrite acct', .publish { tx with lockTime := 0 }], some acct',
              some { tx with lockTime := 0 }⟩ := by
  obtain ⟨_, p⟩ := (spendAccount_cases hres).passed_of_accepted h
  obtain ⟨hcoop, rfl⟩ := p.path.resolve_right fun he => hact he.2.1
  obtain ⟨idx, hl, heq⟩ := p.located hact
  obtain ⟨pre, hc, hpre1, hpre2⟩ := spendCommit_cases heq
  have heq := hc.eq_of_accepted h
  rw [if_pos hcoop] at hpre1
  rw [applyMods_append, cnao_applyMods] at hl
  rw [applyMods_stored, cnao_applyMods] at heq
  exact ⟨idx, pre, _, rfl, cnao_fst so a v ne nv, hcoop, hl, p.sane, hpre1, hpre2, heq⟩

theorem optExpiry_ok {eh best : UInt32} {ne : Option UInt32} (h : optExpiry eh best = .ok ne) :
    ne = (if eh ≠ 0 then some eh else none) ∧ (eh ≠ 0 → validateAccountExpiry eh best = .ok ()) := by
  unfold optExpiry at h
  by_cases he : eh ≠ 0
  · rw [if_pos he] at h ⊢
    cases hv : validateAccountExpiry eh best with
    | error r => rw [hv] at h; cases h
    | ok u => rw [hv] at h; cases h; exact ⟨rfl, fun _ => rfl⟩
  · rw [if_neg he] at h ⊢
    cases h; exact ⟨rfl, fun hne => absurd hne he⟩

/-- a withdrawal or renewal (`action`, requested `outputs`, witness type `wt`, expiry to record `ne`) got past its
guards: what they established (`v` the new value) and the `spendAccount` call its result `res` then is.  `ClosePassed`,
`DepositPassed` likewise; `WithdrawPassed`, `RenewPassed` add the operation's own two facts. -/
structure ModifyPassed (so : ScriptOf) (a : Account) (action : Action) (outputs : List TxOut) (rate : Int) (wt : Nat)
    (ne : Option UInt32) (nv : Nat) (best : UInt32) (f : Faults) (v : Int) (res : OpResult) : Prop where
  version : a.version ≤ nv
  value : valueAfterAccountUpdate a.value outputs wt rate = .ok v
  fresh : (createNewAccountOutput so a v ne nv).1.script ∉ outputs.map (·.script)
  eq : res = spendAccount so a action (createSpendTx so a ((createNewAccountOutput so a v ne nv).1 :: outputs)) wt
    ((createNewAccountOutput so a v ne nv).2 ++ [.state StatePendingUpdate]) best f

structure WithdrawPassed (so : ScriptOf) (a : Account) (outputs : List TxOut) (rate : Int) (best eh : UInt32) (nv : Nat)
    (f : Faults) (ne : Option UInt32) (v : Int) (res : OpResult) : Prop
    extends ModifyPassed so a .withdraw outputs rate (determineWitnessType a best) ne nv best f v res where
  state : a.state = StateOpen
  expiry : optExpiry eh best = .ok ne

theorem withdraw_cases (so : ScriptOf) (a : Account) (outputs : List TxOut) (rate : Int) (best eh : UInt32)
    (nv : Nat) (f : Faults) :
    RefusedOr (fun res => ∃ ne v, WithdrawPassed so a outputs rate best eh nv f ne v res)
      (withdraw so a outputs rate best eh nv f) := by
  unfold withdraw
  refine guard_cases (.refused _) fun hs => guard_cases (.refused _) fun hv => ?_
  split
  · exact .refused _
  rename_i ne hne
  dsimp only
  split
  · exact .refused _
  rename_i v hvau
  refine guard_cases (.refused _) fun hown =>
    .passed ⟨ne, v, ⟨Nat.le_of_not_lt hv, hvau, fun hm => ?_, rfl⟩, Decidable.not_not.mp hs, hne⟩
  obtain ⟨o, ho, hs'⟩ := List.mem_map.mp hm
  exact hown ⟨by decide, List.any_eq_true.mpr ⟨o, ho, by simpa using hs'⟩⟩

structure RenewPassed (so : ScriptOf) (a : Account) (newExpiry : UInt32) (rate : Int) (best : UInt32) (nv : Nat)
    (f : Faults) (v : Int) (res : OpResult) : Prop
    extends ModifyPassed so a .renew [] rate
      (if a.version ≥ VersionTaprootEnabled then wt_muSig2Taproot else wt_multiSigWitness)
      (some newExpiry) nv best f v res where
  state : a.state = StateOpen ∨ a.state = StateExpired
  expiry : validateAccountExpiry newExpiry best = .ok ()

theorem renew_cases (so : ScriptOf) (a : Account) (newExpiry : UInt32) (rate : Int) (best : UInt32) (nv : Nat)
    (f : Faults) :
    RefusedOr (fun res => ∃ v, RenewPassed so a newExpiry rate best nv f v res)
      (renew so a newExpiry rate best nv f) := by
  unfold renew
  refine guard_cases (.refused _) fun hs => ?_
  split
  · exact .refused _
  rename_i hexp
  refine guard_cases (.refused _) fun hv => ?_
  dsimp only
  split
  · exact .refused _
  rename_i v hvau
  exact .passed ⟨v, ⟨Nat.le_of_not_lt hv, hvau, List.not_mem_nil, rfl⟩, Decidable.not_not.mp hs, hexp⟩

theorem renew_inv {so : ScriptOf} {a : Account} {newExpiry : UInt32} {rate : Int} {best : UInt32}
    {nv : Nat} {f : Faults} (h : (renew so a newExpiry rate best nv f).refusal = none) :
    (a.state = StateOpen ∨ a.state = StateExpired) ∧ a.version ≤ nv ∧
      validateAccountExpiry newExpiry best = .ok () ∧ ∃ v,
      valueAfterAccountUpdate a.value []
        (if a.version ≥ VersionTaprootEnabled then wt_muSig2Taproot else wt_multiSigWitness) rate = .ok v ∧
      renew so a newExpiry rate best nv f
        = spendAccount so a .renew (createSpendTx so a [(createNewAccountOutput so a v (some newExpiry) nv).1])
            (if a.version ≥ VersionTaprootEnabled then wt_muSig2Taproot else wt_multiSigWitness)
            ((createNewAccountOutput so a v (some newExpiry) nv).2 ++ [.state StatePendingUpdate]) best f :=
  let ⟨v, g⟩ := (renew_cases ..).passed_of_accepted h
  ⟨g.state, g.version, g.expiry, v, g.value, g.eq⟩

theorem renew_trace_inv {so : ScriptOf} {a : Account} {newExpiry : UInt32} {rate : Int} {best : UInt32}
    {nv : Nat} {f : Faults} (h : (renew so a newExpiry rate best nv f).trace ≠ []) :
    (a.state = StateOpen ∨ a.state = StateExpired) ∧ a.version ≤ nv ∧
      validateAccountExpiry newExpiry best = .ok () ∧ ∃ v,
      valueAfterAccountUpdate a.value []
        (if a.version ≥ VersionTaprootEnabled then wt_muSig2Taproot else wt_multiSigWitness) rate = .ok v ∧
      renew so a newExpiry rate best nv f
        = spendAccount so a .renew (createSpendTx so a [(createNewAccountOutput so a v (some newExpiry) nv).1])
            (if a.version ≥ VersionTaprootEnabled then wt_muSig2Taproot else wt_multiSigWitness)
            ((createNewAccountOutput so a v (some newExpiry) nv).2 ++ [.state StatePendingUpdate]) best f :=
  let ⟨v, g⟩ := (renew_cases ..).passed_of_effect h
  ⟨g.state, g.version, g.expiry, v, g.value, g.eq⟩

structure ClosePassed (so : ScriptOf) (a : Account) (fe : FeeExpr) (ws : Bool → Script) (best : UInt32) (f : Faults)
    (outs : List TxOut) (res : OpResult) : Prop where
  state : a.state = StateOpen ∨ a.state = StateExpired
  outputs : fe.closeOutputs ws a.value (determineWitnessType a best) = .ok outs
  eq : res = spendAccount so a .close (createSpendTx so a outs) (determineWitnessType a best)
    [.value 0, .state StatePendingClosed] best f

theorem close_cases (so : ScriptOf) (a : Account) (fe : FeeExpr) (ws : Bool → Script) (best : UInt32) (f : Faults) :
    RefusedOr (fun res => ∃ outs, ClosePassed so a fe ws best f outs res) (close so a fe ws best f) := by
  unfold close
  refine guard_cases (.refused _) fun hs => ?_
  dsimp only
  split
  · exact .refused _
  rename_i outs ho
  exact .passed ⟨outs, Decidable.not_not.mp hs, ho, rfl⟩

structure DepositPassed (so : ScriptOf) (a : Account) (amount rate : Int) (best eh : UInt32) (nv : Nat)
    (maxValue : Option Int) (fd : Option Funded) (f : Faults) (maxV : Int) (ne : Option UInt32) (tx : Tx)
    (res : OpResult) : Prop where
  state : a.state = StateOpen
  version : a.version ≤ nv
  terms : maxValue = some maxV
  le_max : a.value + amount ≤ maxV
  ge_min : (MinAccountValue : Int) ≤ a.value + amount
  expiry : optExpiry eh best = .ok ne
  funded : inputsForDeposit so a (createNewAccountOutput so a (a.value + amount) ne nv).1 amount
    (determineWitnessType a best) rate fd = .ok tx
  eq : res = spendAccount so a .deposit tx (determineWitnessType a best)
    ((createNewAccountOutput so a (a.value + amount) ne nv).2 ++ [.state StatePendingUpdate]) best f

theorem deposit_cases (so : ScriptOf) (a : Account) (amount rate : Int) (best eh : UInt32) (nv : Nat)
    (maxValue : Option Int) (fd : Option Funded) (f : Faults) :
    RefusedOr (fun res => ∃ maxV ne tx, DepositPassed so a amount rate best eh nv maxValue fd f maxV ne tx res)
      (deposit so a amount rate best eh nv maxValue fd f) := by
  unfold deposit
  refine guard_cases (.refused _) fun hs => guard_cases (.refused _) fun hv => ?_
  cases maxValue with
  | none => exact .refused _
  | some maxV =>
    refine guard_cases (.refused _) fun hmin => guard_cases (.refused _) fun hmax => ?_
    split
    · exact .refused _
    rename_i ne hne
    dsimp only
    split
    · exact .refused _
    rename_i tx htx
    exact .passed ⟨maxV, ne, tx, Decidable.not_not.mp hs, Nat.le_of_not_lt hv, rfl, Int.not_lt.mp hmax,
      Int.not_lt.mp fun hlt => hmin ⟨by decide, hlt⟩, hne, htx, rfl⟩

end Pool.C07
