import PoolModel.C06
/-! Helper lemmas for C06/C13: association lists, what the staging loops compute, the visible state and the staged
batch of a database (`vis`, `staged`), the coherence invariant, closed forms of the transaction bodies and of `step`. -/
namespace Pool.C06

theorem lookup_cons (k : Key) (p : Key × α) (r : List (Key × α)) :
    lookup k (p :: r) = if k = p.1 then some p.2 else lookup k r := rfl

theorem upsert_cons (k : Key) (v : α) (p : Key × α) (r : List (Key × α)) :
    upsert k v (p :: r) = if k = p.1 then (k, v) :: r else p :: upsert k v r := rfl

theorem erase_cons (k : Key) (p : Key × α) (r : List (Key × α)) :
    erase k (p :: r) = if k = p.1 then erase k r else p :: erase k r := rfl

theorem keys_cons (p : Key × α) (r : List (Key × α)) : keys (p :: r) = p.1 :: keys r := rfl

theorem lookup_upsert (k k' : Key) (v : α) (l : List (Key × α)) :
    lookup k (upsert k' v l) = if k = k' then some v else lookup k l := by
  induction l with
  | nil => rfl
  | cons p r ih => by_cases h : k' = p.1 <;> by_cases hk : k = k' <;> simp_all [upsert_cons, lookup_cons]

theorem lookup_erase (k k' : Key) (l : List (Key × α)) :
    lookup k (erase k' l) = if k = k' then none else lookup k l := by
  induction l with
  | nil => simp [erase, lookup]
  | cons p r ih => by_cases h : k' = p.1 <;> by_cases hk : k = k' <;> simp_all [erase_cons, lookup_cons]

theorem lookup_isSome_iff {k : Key} {l : List (Key × α)} : (lookup k l).isSome = true ↔ k ∈ keys l := by
  induction l with
  | nil => simp [lookup, keys]
  | cons p r ih => rw [lookup_cons, keys_cons, List.mem_cons, ← ih]; split <;> simp [*]

theorem lookup_none_of_not_mem {k : Key} {l : List (Key × α)} (h : k ∉ keys l) : lookup k l = none :=
  Option.not_isSome_iff_eq_none.1 (mt lookup_isSome_iff.1 h)

theorem lookup_mem {k : Key} {v : α} {l : List (Key × α)} (h : lookup k l = some v) : (k, v) ∈ l := by
  induction l with
  | nil => cases h
  | cons p r ih =>
    rw [lookup_cons] at h
    split at h
    · next hk => cases h; rw [hk]; exact List.mem_cons_self
    · exact List.mem_cons_of_mem _ (ih h)

theorem keys_upsert_mem {k x : Key} {v : α} {l : List (Key × α)} :
    x ∈ keys (upsert k v l) ↔ x = k ∨ x ∈ keys l := by
  rw [← lookup_isSome_iff, ← lookup_isSome_iff, lookup_upsert]; split <;> simp [*]

theorem keys_erase_mem {k x : Key} {l : List (Key × α)} : x ∈ keys (erase k l) ↔ x ≠ k ∧ x ∈ keys l := by
  rw [← lookup_isSome_iff, ← lookup_isSome_iff, lookup_erase]; split <;> simp [*]

theorem keys_upsert_nodup {k : Key} {v : α} {l : List (Key × α)} (h : (keys l).Nodup) :
    (keys (upsert k v l)).Nodup := by
  induction l with
  | nil => simp [upsert, keys]
  | cons p r ih =>
    rw [keys_cons, List.nodup_cons] at h
    rw [upsert_cons]
    split
    · next hk => rw [keys_cons, List.nodup_cons]; exact hk ▸ h
    · next hk =>
      rw [keys_cons, List.nodup_cons, keys_upsert_mem]
      exact ⟨fun hm => hm.elim (fun e => hk e.symm) h.1, ih h.2⟩

theorem keys_erase_nodup {k : Key} {l : List (Key × α)} (h : (keys l).Nodup) : (keys (erase k l)).Nodup := by
  induction l with
  | nil => exact h
  | cons p r ih =>
    rw [keys_cons, List.nodup_cons] at h
    rw [erase_cons]
    split
    · exact ih h.2
    · rw [keys_cons, List.nodup_cons]; exact ⟨fun hm => h.1 (keys_erase_mem.1 hm).2, ih h.2⟩

theorem mem_upsert {k : Key} {v : α} {l : List (Key × α)} {p : Key × α} (h : p ∈ upsert k v l) :
    p = (k, v) ∨ p ∈ l := by
  induction l with
  | nil => exact Or.inl (List.mem_singleton.1 h)
  | cons q r ih =>
    rw [upsert_cons] at h
    split at h
    · exact (List.mem_cons.1 h).imp_right (List.mem_cons_of_mem _)
    · rcases List.mem_cons.1 h with h | h
      · exact Or.inr (h ▸ List.mem_cons_self)
      · exact (ih h).imp_right (List.mem_cons_of_mem _)

def over (st main : List (Key × α)) : List (Key × α) := st.foldl (fun m p => upsert p.1 p.2 m) main

theorem over_nil (main : List (Key × α)) : over [] main = main := rfl
theorem over_cons (p : Key × α) (r main : List (Key × α)) :
    over (p :: r) main = over r (upsert p.1 p.2 main) := rfl

theorem over_append (a b main : List (Key × α)) : over (a ++ b) main = over b (over a main) :=
  List.foldl_append

theorem keys_over_nodup {st main : List (Key × α)} (h : (keys main).Nodup) : (keys (over st main)).Nodup := by
  induction st generalizing main with
  | nil => exact h
  | cons p r ih => exact ih (keys_upsert_nodup h)

theorem mem_over {st main : List (Key × α)} {p : Key × α} (h : p ∈ over st main) : p ∈ st ∨ p ∈ main := by
  induction st generalizing main with
  | nil => exact Or.inr h
  | cons q r ih =>
    rcases ih h with h' | h'
    · exact Or.inl (List.mem_cons_of_mem _ h')
    · exact (mem_upsert h').imp_left fun e => by rw [e]; exact List.mem_cons_self

theorem keys_over_mem {st main : List (Key × α)} {x : Key} :
    x ∈ keys (over st main) ↔ x ∈ keys st ∨ x ∈ keys main := by
  induction st generalizing main with
  | nil => simp [over, keys]
  | cons p r ih =>
    rw [over_cons, ih, keys_upsert_mem, keys_cons, List.mem_cons]
    exact or_left_comm.trans or_assoc.symm

def pick (staged old : Option α) : Option α :=
  match staged with
  | some v => some v
  | none => old

@[simp] theorem pick_some (v : α) (old : Option α) : pick (some v) old = some v := rfl
@[simp] theorem pick_none (old : Option α) : pick none old = old := rfl

theorem lookup_over {st main : List (Key × α)} (hn : (keys st).Nodup) (k : Key) :
    lookup k (over st main) = pick (lookup k st) (lookup k main) := by
  induction st generalizing main with
  | nil => rfl
  | cons p r ih =>
    rw [keys_cons, List.nodup_cons] at hn
    rw [over_cons, ih hn.2, lookup_upsert, lookup_cons]
    split
    · next hk => rw [hk, lookup_none_of_not_mem hn.1, pick_none, pick_some]
    · rfl

/-- every account in the bucket reads back as itself (it went through `storeA`) -/
def AllStored (l : List (Key × Acct)) : Prop := ∀ p ∈ l, storeA p.2 = .ok p.2

theorem normA_state (a : Acct) : (normA a).state = a.state := by
  unfold normA; split <;> rfl

theorem normA_idem (a : Acct) : normA (normA a) = normA a := by
  unfold normA; split <;> simp [*]

theorem storeA_ok_iff {a a' : Acct} : storeA a = .ok a' ↔ serPanics a = false ∧ a' = normA a := by
  unfold storeA; cases serPanics a <;> simp [eq_comm]

theorem serPanics_normA {a : Acct} (h : serPanics a = false) : serPanics (normA a) = false := by
  unfold serPanics normA at *; split <;> simp_all

theorem storeA_idem {a a' : Acct} (h : storeA a = .ok a') : storeA a' = .ok a' := by
  obtain ⟨h1, rfl⟩ := storeA_ok_iff.1 h
  exact storeA_ok_iff.2 ⟨serPanics_normA h1, (normA_idem a).symm⟩

theorem allStored_nil : AllStored [] := by intro p hp; cases hp

theorem allStored_upsert {k : Key} {a : Acct} {l : List (Key × Acct)} (hl : AllStored l)
    (ha : storeA a = .ok a) : AllStored (upsert k a l) := by
  intro p hp
  rcases mem_upsert hp with h | h
  · rw [h]; exact ha
  · exact hl p h

theorem allStored_over {st main : List (Key × Acct)} (hs : AllStored st) (hm : AllStored main) :
    AllStored (over st main) := by
  intro p hp
  rcases mem_over hp with h | h
  · exact hs p h
  · exact hm p h

theorem applyAccts_ok {pa main : List (Key × Acct)} (h : AllStored pa) :
    applyAccts pa main = .ok (over pa main) := by
  induction pa generalizing main with
  | nil => rfl
  | cons p r ih =>
    have hv : storeA p.2 = .ok p.2 := h p List.mem_cons_self
    have hr : AllStored r := fun q hq => h q (List.mem_cons_of_mem _ hq)
    simp only [applyAccts, hv]
    exact ih hr

theorem applyOrders_eq (po main : List (Key × Ord)) : applyOrders po main = over po main := by
  induction po generalizing main with
  | nil => rfl
  | cons p r ih => exact ih _

theorem updateOrderCore_ok {main : List (Key × Ord)} {k : Key} {m : List OMod} {o' : Ord} {e : Evt}
    (h : updateOrderCore main k m = .ok (o', e)) :
    ∃ o, lookup k main = some o ∧ o' = applyOMods m o ∧ e = .updated o.state o'.state (sub64 o'.units o'.unfilled) := by
  unfold updateOrderCore at h
  split at h
  · cases h
  · next o ho => cases h; exact ⟨o, ho, rfl, rfl⟩

theorem stageOrdersLoop_cons_ok {main : List (Key × Ord)} {n : Key} {m : List OMod} {r st ev upd res}
    (h : stageOrdersLoop main ((n, m) :: r) st ev upd = .ok res) :
    ∃ o' e, updateOrderCore main n m = .ok (o', e) ∧
      stageOrdersLoop main r (upsert n o' st) (ev ++ [(n, e)]) (upd ++ [(n, o')]) = .ok res := by
  simp only [stageOrdersLoop] at h
  split at h
  · cases h
  · next o' e hc => exact ⟨o', e, hc, h⟩

theorem updateAccountCore_ok {main : List (Key × Acct)} {k : Key} {m : List AMod} {a : Acct}
    (h : updateAccountCore main k m = .ok a) : ∃ a0, lookup k main = some a0 ∧ a = applyAMods m a0 := by
  unfold updateAccountCore at h
  split at h
  · cases h
  · next a0 h0 => cases h; exact ⟨a0, h0, rfl⟩

theorem stageAcctsLoop_cons_ok {main : List (Key × Acct)} {k : Key} {m : List AMod} {r st upd res}
    (h : stageAcctsLoop main ((k, m) :: r) st upd = .ok res) :
    ∃ a a', updateAccountCore main k m = .ok a ∧ storeA a = .ok a' ∧
      stageAcctsLoop main r (upsert k a' st) (upd ++ [(k, a)]) = .ok res := by
  simp only [stageAcctsLoop] at h
  split at h
  · cases h
  · next a hc =>
    split at h
    · cases h
    · next a' hs => exact ⟨a, a', hc, hs, h⟩

theorem stageOrdersLoop_ev_append (main : List (Key × Ord)) (l : List (Key × List OMod)) (st : List (Key × Ord))
    (e0 ev : List (Key × Evt)) (upd : List (Key × Ord)) :
    stageOrdersLoop main l st (e0 ++ ev) upd =
      (stageOrdersLoop main l st ev upd).map fun r => (r.1, e0 ++ r.2.1, r.2.2) := by
  induction l generalizing st ev upd with
  | nil => rfl
  | cons p r ih =>
    simp only [stageOrdersLoop]
    cases updateOrderCore main p.1 p.2 with
    | error e => rfl
    | ok x => dsimp only; rw [List.append_assoc]; exact ih _ _ _

theorem updateOrdersLoop_ev_append (l : List (Key × List OMod)) (os : List (Key × Ord)) (e0 ev : List (Key × Evt)) :
    updateOrdersLoop l os (e0 ++ ev) = (updateOrdersLoop l os ev).map fun r => (r.1, e0 ++ r.2) := by
  induction l generalizing os ev with
  | nil => rfl
  | cons p r ih =>
    simp only [updateOrdersLoop]
    cases updateOrderCore os p.1 p.2 with
    | error e => rfl
    | ok x => dsimp only; rw [List.append_assoc]; exact ih _ _

theorem updateOrdersTx_eq (ns : List Key) (ms : List (List OMod)) (db : DB) :
    updateOrdersTx ns ms db =
      (updateOrdersLoop (ns.zip ms) db.orders []).map fun r =>
        { db with orders := r.1, events := db.events ++ r.2, noRefs := db.noRefs.filter (fun k => !ns.contains k) } := by
  have h := updateOrdersLoop_ev_append (ns.zip ms) db.orders db.events []
  rw [List.append_nil] at h
  rw [updateOrdersTx, h]
  cases updateOrdersLoop (ns.zip ms) db.orders [] <;> rfl

/-- the staging bucket is the map built from `updatedOrders` (what `NewSnapshot` builds) -/
theorem stageOrdersLoop_snap {main : List (Key × Ord)} {l : List (Key × List OMod)} {st ev upd po es us}
    (h : stageOrdersLoop main l st ev upd = .ok (po, es, us)) (hst : st = over upd []) : po = over us [] := by
  induction l generalizing st ev upd with
  | nil => cases h; exact hst
  | cons p r ih =>
    obtain ⟨o', e, -, h⟩ := stageOrdersLoop_cons_ok h
    exact ih h (by rw [over_append, ← hst]; rfl)

/-- the account staging bucket is the map `NewSnapshot` builds from `updatedAccounts` (as serialized).  `hst`, `hs`
say of the accumulators the loop starts from what the conclusion says of its result, for the induction. -/
theorem stageAcctsLoop_snap {main : List (Key × Acct)} {l : List (Key × List AMod)}
    {st upd pa upd'} (h : stageAcctsLoop main l st upd = .ok (pa, upd'))
    (hst : st = over (upd.map (Prod.map id normA)) []) (hs : AllStored st) :
    pa = over (upd'.map (Prod.map id normA)) [] ∧ AllStored pa := by
  induction l generalizing st upd with
  | nil => cases h; exact ⟨hst, hs⟩
  | cons p r ih =>
    obtain ⟨a, a', -, hsa, h⟩ := stageAcctsLoop_cons_ok h
    refine ih h ?_ (allStored_upsert hs (storeA_idem hsa))
    rw [List.map_append, over_append, ← hst, (storeA_ok_iff.1 hsa).2]; rfl

/-- the modifier list of the LAST entry for key `n` in a call's (key, modifiers) list -/
def lastFor (n : Key) : List (Key × β) → Option β
  | [] => none
  | (k, m) :: r => pick (lastFor n r) (if n = k then some m else none)

theorem lastFor_cons (n k : Key) (m : β) (r : List (Key × β)) :
    lastFor n ((k, m) :: r) = pick (lastFor n r) (if n = k then some m else none) := rfl

/-- staged value of a key: listed in the call → the MAIN record with the listed modifiers applied; else `dflt` -/
def stagedVal (f : β → α → α) (mods : Option β) (mainVal dflt : Option α) : Option α :=
  match mods with
  | some m => mainVal.map (f m)
  | none => dflt

@[simp] theorem stagedVal_some (f : β → α → α) (m : β) (mainVal dflt : Option α) :
    stagedVal f (some m) mainVal dflt = mainVal.map (f m) := rfl
@[simp] theorem stagedVal_none (f : β → α → α) (mainVal dflt : Option α) : stagedVal f none mainVal dflt = dflt := rfl

theorem stagedVal_cons {f : β → α → α} {n k : Key} {m : β} {r : List (Key × β)} {main st : List (Key × α)} {a0 : α}
    (h : lookup k main = some a0) :
    stagedVal f (lastFor n r) (lookup n main) (lookup n (upsert k (f m a0) st)) =
      stagedVal f (lastFor n ((k, m) :: r)) (lookup n main) (lookup n st) := by
  rw [lookup_upsert, lastFor_cons]
  cases lastFor n r with
  | some x => rfl
  | none =>
    by_cases hk : n = k
    · subst hk; simp [h]
    · simp [hk]

theorem stageOrdersLoop_lookup {main : List (Key × Ord)} {l : List (Key × List OMod)}
    {st ev upd po ev' upd'} (h : stageOrdersLoop main l st ev upd = .ok (po, ev', upd')) (n : Key) :
    lookup n po = stagedVal applyOMods (lastFor n l) (lookup n main) (lookup n st) := by
  induction l generalizing st ev upd with
  | nil => cases h; rfl
  | cons p r ih =>
    obtain ⟨o', e, hc, h⟩ := stageOrdersLoop_cons_ok h
    obtain ⟨o, ho, rfl, -⟩ := updateOrderCore_ok hc
    rw [ih h, stagedVal_cons ho]

/-- the event `updateOrder` writes for entry `(n, mods)`; for an unknown order it fails instead, so the value in
that case is never used -/
def evtOf (main : List (Key × Ord)) (p : Key × List OMod) : Key × Evt :=
  match lookup p.1 main with
  | some o => (p.1, .updated o.state (applyOMods p.2 o).state (sub64 (applyOMods p.2 o).units (applyOMods p.2 o).unfilled))
  | none => (p.1, .created)

theorem stageOrdersLoop_events {main : List (Key × Ord)} {l : List (Key × List OMod)}
    {st ev upd po ev' upd'} (h : stageOrdersLoop main l st ev upd = .ok (po, ev', upd')) :
    ev' = ev ++ l.map (evtOf main) := by
  induction l generalizing st ev upd with
  | nil => cases h; simp
  | cons p r ih =>
    obtain ⟨o', e, hc, h⟩ := stageOrdersLoop_cons_ok h
    obtain ⟨o, ho, rfl, rfl⟩ := updateOrderCore_ok hc
    rw [ih h, List.map_cons, List.append_assoc]
    simp only [evtOf, ho, List.singleton_append]

theorem stageAcctsLoop_lookup {main : List (Key × Acct)} {l : List (Key × List AMod)}
    {st upd pa upd'} (h : stageAcctsLoop main l st upd = .ok (pa, upd')) (n : Key) :
    lookup n pa = stagedVal (fun m a => normA (applyAMods m a)) (lastFor n l) (lookup n main) (lookup n st) := by
  induction l generalizing st upd with
  | nil => cases h; rfl
  | cons p r ih =>
    obtain ⟨a, a', hc, hsa, h⟩ := stageAcctsLoop_cons_ok h
    obtain ⟨a0, ha0, rfl⟩ := updateAccountCore_ok hc
    rw [ih h, (storeA_ok_iff.1 hsa).2, stagedVal_cons ha0]

/-- what `Account(s)`, `GetOrder(s)`, `GetLocalBatchSnapshot(s)` read -/
structure Visible where
  accounts : List (Key × Acct)
  orders : List (Key × Ord)
  snaps : List Snap
  index : List (Nat × Nat)
deriving DecidableEq, Repr

structure Staged where
  id : Nat
  accts : List (Key × Acct)
  orders : List (Key × Ord)
  snap : Snap
deriving DecidableEq, Repr

def vis (db : DB) : Visible := ⟨db.accounts, db.orders, db.snaps, db.index⟩

def staged (db : DB) : Option Staged :=
  match db.pendingId, db.pendingAccts, db.pendingOrders, db.pendingSnap with
  | some i, some a, some o, some s => some ⟨i, a, o, s⟩
  | _, _, _, _ => none

/-- can `PendingBatchSnapshot` be loaded: all orders of the staged snapshot still exist in the main bucket -/
def readable (v : Visible) (st : Staged) : Bool :=
  (keys st.snap.orders).all (fun n => (lookup n v.orders).isSome)

theorem readable_vis (db : DB) (st : Staged) : readable (vis db) st = snapReadable db st.snap := rfl

/-- the reconnect rule: discard iff the auctioneer finalised ANOTHER transaction (and the funding artifacts of the
staged one could be removed) -/
def discards (st : Staged) (rpc : Rpc) (removeOk : Bool) : Bool :=
  match rpc with
  | .finalized t => decide (st.snap.tx ≠ t) && removeOk
  | _ => false

theorem discards_iff {st : Staged} {rpc : Rpc} {rm : Bool} :
    discards st rpc rm = true ↔ ∃ t, rpc = .finalized t ∧ st.snap.tx ≠ t ∧ rm = true := by
  cases rpc <;> simp [discards]

def StagedOK (st : Staged) : Prop :=
  st.snap.id = st.id ∧ st.snap.accts = st.accts ∧ st.snap.orders = st.orders ∧
  AllStored st.accts ∧ (keys st.accts).Nodup ∧ (keys st.orders).Nodup

theorem StagedOK.snapId {st : Staged} (h : StagedOK st) : st.snap.id = st.id := h.1
theorem StagedOK.snapAccts {st : Staged} (h : StagedOK st) : st.snap.accts = st.accts := h.2.1
theorem StagedOK.snapOrders {st : Staged} (h : StagedOK st) : st.snap.orders = st.orders := h.2.2.1
theorem StagedOK.stored {st : Staged} (h : StagedOK st) : AllStored st.accts := h.2.2.2.1
theorem StagedOK.acctN {st : Staged} (h : StagedOK st) : (keys st.accts).Nodup := h.2.2.2.2.1
theorem StagedOK.ordN {st : Staged} (h : StagedOK st) : (keys st.orders).Nodup := h.2.2.2.2.2

def NoPending (db : DB) : Prop :=
  db.pendingId = none ∧ db.pendingAccts = none ∧ db.pendingOrders = none ∧ db.pendingSnap = none

theorem NoPending.id {db : DB} (h : NoPending db) : db.pendingId = none := h.1
theorem NoPending.snap {db : DB} (h : NoPending db) : db.pendingSnap = none := h.2.2.2

def HasPending (db : DB) (st : Staged) : Prop :=
  db.pendingId = some st.id ∧ db.pendingAccts = some st.accts ∧ db.pendingOrders = some st.orders ∧
  db.pendingSnap = some st.snap

theorem HasPending.snap {db : DB} {st : Staged} (h : HasPending db st) : db.pendingSnap = some st.snap := h.2.2.2

def IndexOK (db : DB) : Prop :=
  ∀ id seq, lookup id db.index = some seq → 1 ≤ seq ∧ ∃ s, db.snaps[seq - 1]? = some s ∧ s.id = id

structure Coh (db : DB) : Prop where
  accN : (keys db.accounts).Nodup
  ordN : (keys db.orders).Nodup
  pend : NoPending db ∨ ∃ st, StagedOK st ∧ HasPending db st
  idx : IndexOK db

theorem staged_of_noPending {db : DB} (h : NoPending db) : staged db = none := by
  simp [staged, h.id]

theorem staged_of_hasPending {db : DB} {st : Staged} (h : HasPending db st) : staged db = some st := by
  obtain ⟨h1, h2, h3, h4⟩ := h; simp [staged, h1, h2, h3, h4]

theorem hasPending_of_staged {db : DB} {st : Staged} (h : staged db = some st) : HasPending db st := by
  unfold staged at h
  split at h
  · next h1 h2 h3 h4 => cases h; exact ⟨h1, h2, h3, h4⟩
  · cases h

theorem Coh.stagedOK {db : DB} (hc : Coh db) {st : Staged} (h : staged db = some st) : StagedOK st := by
  rcases hc.pend with hn | ⟨st', hs, hp⟩
  · rw [staged_of_noPending hn] at h; cases h
  · rw [staged_of_hasPending hp] at h; cases h; exact hs

theorem Coh.noPending {db : DB} (hc : Coh db) (h : staged db = none) : NoPending db := by
  rcases hc.pend with hn | ⟨st', hs, hp⟩
  · exact hn
  · rw [staged_of_hasPending hp] at h; cases h

theorem coh_init : Coh DB.init :=
  ⟨by simp [DB.init, keys], by simp [DB.init, keys], Or.inl ⟨rfl, rfl, rfl, rfl⟩,
   by intro id seq h; simp [DB.init, lookup] at h⟩

structure StageOut where
  po : List (Key × Ord)
  pa : List (Key × Acct)
  es : List (Key × Evt)
  snap : Snap

/-- what a staging call computes – from the MAIN (visible) accounts and orders and its arguments alone -/
def stageOut (accounts : List (Key × Acct)) (orders : List (Key × Ord)) (a : StageArgs) : Except Err StageOut :=
  if a.orders.length ≠ a.orderMods.length then .error .lenOrder
  else if a.accounts.length ≠ a.acctMods.length then .error .lenAcct
  else
    match stageOrdersLoop orders (a.orders.zip a.orderMods) [] [] [] with
    | .error e => .error e
    | .ok (po, es, uo) =>
      match stageAcctsLoop accounts (a.accounts.zip a.acctMods) [] [] with
      | .error e => .error e
      | .ok (pa, ua) =>
        match newSnapshot a uo ua with
        | .error e => .error e
        | .ok snap => .ok ⟨po, pa, es, snap⟩

def afterStage (db : DB) (a : StageArgs) (o : StageOut) : DB :=
  { db with events := db.events ++ o.es, pendingId := some a.batchId, pendingAccts := some o.pa,
            pendingOrders := some o.po, pendingSnap := some o.snap,
            noRefs := db.noRefs.filter (fun k => !a.orders.contains k) }

theorem storePendingBatch_eq (a : StageArgs) (db : DB) :
    storePendingBatch a db = (stageOut db.accounts db.orders a).map (afterStage db a) := by
  unfold storePendingBatch stageOut
  split
  · rfl
  · split
    · rfl
    · -- the transaction hands the order loop the event log, `stageOut` the empty one
      have h := stageOrdersLoop_ev_append db.orders (a.orders.zip a.orderMods) [] db.events [] []
      rw [List.append_nil] at h
      simp only [storePendingBatchTx, h]
      cases stageOrdersLoop db.orders (a.orders.zip a.orderMods) [] [] [] with
      | error e => rfl
      | ok x =>
        dsimp only [Except.map]
        cases stageAcctsLoop db.accounts (a.accounts.zip a.acctMods) [] [] with
        | error e => rfl
        | ok y =>
          dsimp only
          cases newSnapshot a x.2.2 y.2 <;> rfl

theorem hasPending_afterStage (db : DB) (a : StageArgs) (o : StageOut) :
    HasPending (afterStage db a o) ⟨a.batchId, o.pa, o.po, o.snap⟩ := ⟨rfl, rfl, rfl, rfl⟩

theorem stageOut_ok {A : List (Key × Acct)} {O : List (Key × Ord)} {a : StageArgs} {o : StageOut}
    (h : stageOut A O a = .ok o) :
    ∃ uo ua, stageOrdersLoop O (a.orders.zip a.orderMods) [] [] [] = .ok (o.po, o.es, uo) ∧
      stageAcctsLoop A (a.accounts.zip a.acctMods) [] [] = .ok (o.pa, ua) ∧
      o.snap = ⟨a.batchId, a.batchTx, over (ua.map (Prod.map id normA)) [], over uo [], a.matched⟩ := by
  unfold stageOut at h
  split at h
  · cases h
  · split at h
    · cases h
    · split at h
      · cases h
      · next po es uo ho =>
        split at h
        · cases h
        · next pa ua ha =>
          split at h
          · cases h
          · next snap hs =>
            cases h
            unfold newSnapshot at hs
            split at hs <;> cases hs
            exact ⟨uo, ua, ho, ha, by rw [over, List.foldl_map]; rfl⟩

theorem stageOut_stagedOK {A : List (Key × Acct)} {O : List (Key × Ord)} {a : StageArgs} {o : StageOut}
    (h : stageOut A O a = .ok o) : StagedOK ⟨a.batchId, o.pa, o.po, o.snap⟩ := by
  obtain ⟨uo, ua, ho, ha, hs⟩ := stageOut_ok h
  obtain ⟨h1, h2⟩ := stageAcctsLoop_snap ha rfl allStored_nil
  have h4 := stageOrdersLoop_snap ho rfl
  exact ⟨hs ▸ rfl, hs ▸ h1.symm, hs ▸ h4.symm, h2, h1 ▸ keys_over_nodup List.nodup_nil,
    h4 ▸ keys_over_nodup List.nodup_nil⟩

def applyStaged (st : Staged) (v : Visible) : Visible :=
  { accounts := over st.accts v.accounts, orders := over st.orders v.orders,
    snaps := v.snaps ++ [st.snap], index := upsert st.id (v.snaps.length + 1) v.index }

def afterComplete (db : DB) (st : Staged) : DB :=
  { db with accounts := over st.accts db.accounts, orders := over st.orders db.orders,
            pendingId := none, pendingAccts := none, pendingOrders := none, pendingSnap := none,
            snaps := db.snaps ++ [st.snap], index := upsert st.id (db.snaps.length + 1) db.index,
            noRefs := db.noRefs ++ (keys st.orders).filter (fun k => (lookup k db.orders).isNone) }

theorem markBatchComplete_pending {db : DB} {st : Staged} (hp : HasPending db st) (hs : AllStored st.accts) :
    markBatchCompleteTx db = .ok (afterComplete db st) := by
  obtain ⟨h1, h2, h3, h4⟩ := hp
  unfold markBatchCompleteTx applyBatchUpdates
  simp only [h1, h2, applyAccts_ok hs, h3, applyOrders_eq]
  unfold finalizeBatchSnapshot
  simp only [h4]
  rfl

theorem markBatchComplete_noPending {db : DB} (h : db.pendingId = none) :
    markBatchCompleteTx db = .error .noPending := by
  unfold markBatchCompleteTx; simp only [h]

theorem applyBatchUpdates_events {db d : DB} (h : applyBatchUpdates db = .ok d) : d.events = db.events := by
  unfold applyBatchUpdates at h
  split at h
  · cases h
  · split at h
    · cases h
    · simp only [] at h
      split at h <;> cases h
      rfl

theorem finalizeBatchSnapshot_events {db d : DB} {pid : Nat} (h : finalizeBatchSnapshot pid db = .ok d) :
    d.events = db.events := by
  unfold finalizeBatchSnapshot at h
  split at h <;> cases h
  rfl

theorem markBatchComplete_events {db d : DB} (h : markBatchCompleteTx db = .ok d) : d.events = db.events := by
  unfold markBatchCompleteTx at h
  split at h
  · cases h
  · split at h
    · cases h
    · next d1 h1 => rw [finalizeBatchSnapshot_events h, applyBatchUpdates_events h1]

theorem spendPendingClause_eq (db : DB) :
    spendPendingClause db =
      match db.pendingSnap with
      | none => .ok db
      | some s => if snapReadable db s then markBatchCompleteTx db else .error .noOrder := by
  unfold spendPendingClause pendingBatchSnapshot
  cases db.pendingSnap with
  | none => rfl
  | some s => cases hr : snapReadable db s <;> simp [hr]

theorem spendPendingClause_events {db d : DB} (h : spendPendingClause db = .ok d) : d.events = db.events := by
  rw [spendPendingClause_eq] at h
  split at h
  · cases h; rfl
  · split at h
    · exact markBatchComplete_events h
    · cases h

theorem snapReadable_iff {db : DB} {s : Snap} :
    snapReadable db s = true ↔ ∀ n ∈ keys s.orders, n ∈ keys db.orders := by
  simp only [snapReadable, List.all_eq_true, lookup_isSome_iff]

theorem getLocalBatchSnapshot_ok_iff {db : DB} {i : Nat} {s : Snap} :
    getLocalBatchSnapshot db i = .ok s ↔
      ∃ seq, lookup i db.index = some seq ∧ db.snaps[seq - 1]? = some s ∧ snapReadable db s = true := by
  constructor
  · intro h
    unfold getLocalBatchSnapshot at h
    split at h
    · cases h
    · next seq h1 =>
      split at h
      · cases h
      · next s' h2 =>
        split at h <;> cases h
        exact ⟨seq, h1, h2, ‹_›⟩
  · rintro ⟨seq, h1, h2, h3⟩
    simp only [getLocalBatchSnapshot, h1, h2, h3, if_true]

theorem commit_fst_of_err {db : DB} {r : Except Err DB} {e : Err} (h : (commit db r).2 = some e) :
    (commit db r).1 = db := by
  cases r with
  | error _ => rfl
  | ok d => cases h

theorem updateAccount_events (db : DB) (k : Key) (m : List AMod) :
    (step db (.updateAccount k m)).1.events = db.events := by
  simp only [step, updateAccountTx]
  cases updateAccountCore db.accounts k m with
  | error e => rfl
  | ok a => simp only []; cases storeA a <;> rfl

theorem step_stage (db : DB) (a : StageArgs) :
    step db (.stage a) = commit db ((stageOut db.accounts db.orders a).map (afterStage db a)) :=
  congrArg (commit db) (storePendingBatch_eq a db)

theorem step_complete_pending {db : DB} {st : Staged} (hp : HasPending db st) (hs : StagedOK st) :
    step db .complete = (afterComplete db st, none) := by
  simp only [step, markBatchComplete_pending hp hs.stored]; rfl

theorem step_complete_noPending {db : DB} (h : NoPending db) : step db .complete = (db, some .noPending) := by
  simp only [step, markBatchComplete_noPending h.id]; rfl

/-- discarding resets exactly the four fields that `NoPending` says are `none` already -/
theorem step_discard_noPending {db : DB} (h : NoPending db) : step db .discard = (db, none) := by
  obtain ⟨h1, h2, h3, h4⟩ := h
  cases db
  cases h1; cases h2; cases h3; cases h4
  rfl

theorem step_spend_noPending {db : DB} (h : NoPending db) : step db .spend = (db, none) := by
  simp only [step, spendPendingClause_eq, h.snap]; rfl

theorem step_spend_pending {db : DB} {st : Staged} (hp : HasPending db st) :
    step db .spend = if readable (vis db) st then step db .complete else (db, some .noOrder) := by
  simp only [step, spendPendingClause_eq, hp.snap, readable_vis]
  exact apply_ite (commit db) _ _ _

/-- `HandleAccountSpend` in terms of the one-transaction steps it is made of -/
theorem step_accountSpend (db : DB) (k : Key) (w : Witness) (tx ht : Nat) :
    step db (.accountSpend k w tx ht) =
      match lookup k db.accounts, w with
      | none, _ => (db, some .noAcct)
      | some _, .unknown => (db, some .other)
      | some _, .expiry => step db (.updateAccount k (closeMods tx ht))
      | some _, .multiSigRecreate => step db .spend
      | some _, .multiSig =>
        if (step db .spend).2 = none then step (step db .spend).1 (.updateAccount k (closeMods tx ht))
        else step db .spend := by
  simp only [step, handleAccountSpend]
  cases lookup k db.accounts with
  | none => rfl
  | some a =>
    cases w with
    | multiSig => simp only []; split <;> next hs => simp [hs]
    | _ => rfl

theorem reconnect_fst_of_calls (rpc : Rpc) (rm : Bool) (db : DB) :
    (reconnect rpc rm db).1 =
      if (reconnect rpc rm db).2.1.contains .deletePendingBatch then (step db .discard).1 else db := by
  simp only [reconnect]
  split <;> rfl

theorem reconnect_fst (rpc : Rpc) (rm : Bool) (db : DB) :
    (reconnect rpc rm db).1 =
      match db.pendingSnap, rpc with
      | some s, .finalized t => if snapReadable db s && (decide (s.tx ≠ t) && rm) then (step db .discard).1 else db
      | _, _ => db := by
  cases h : db.pendingSnap with
  | none => simp [reconnect, pendingBatchSnapshot, h, checkPendingBatch]
  | some s =>
    simp only [reconnect, pendingBatchSnapshot, h]
    cases rpc with
    | rpcErr b => cases snapReadable db s <;> cases b <;> rfl
    | malformed => cases snapReadable db s <;> rfl
    | finalized t =>
      dsimp only
      cases snapReadable db s with
      | false => rfl
      | true =>
        by_cases ht : s.tx = t
        · simp [checkPendingBatch, ht]
        · cases rm <;> simp [checkPendingBatch, ht, step]

theorem reconnect_pending {db : DB} {st : Staged} (h : HasPending db st) (rpc : Rpc) (rm : Bool) :
    (reconnect rpc rm db).1 =
      if readable (vis db) st && discards st rpc rm then (step db .discard).1 else db := by
  rw [reconnect_fst, h.snap, readable_vis]
  cases rpc with
  | finalized t => rfl
  | _ => exact (if_neg (by simp [discards])).symm

theorem coh_discard {db : DB} (h : Coh db) : Coh (step db .discard).1 :=
  ⟨h.accN, h.ordN, Or.inl ⟨rfl, rfl, rfl, rfl⟩, h.idx⟩

theorem coh_afterStage {db : DB} (h : Coh db) {a : StageArgs} {o : StageOut}
    (ho : stageOut db.accounts db.orders a = .ok o) : Coh (afterStage db a o) :=
  ⟨h.accN, h.ordN, Or.inr ⟨_, stageOut_stagedOK ho, hasPending_afterStage db a o⟩, h.idx⟩

theorem coh_afterComplete {db : DB} (h : Coh db) {st : Staged} (hs : StagedOK st) : Coh (afterComplete db st) := by
  refine ⟨keys_over_nodup h.accN, keys_over_nodup h.ordN, Or.inl ⟨rfl, rfl, rfl, rfl⟩, ?_⟩
  intro id seq hl
  simp only [afterComplete] at hl ⊢
  rw [lookup_upsert] at hl
  split at hl
  · next hid =>
    -- the new entry points at the snapshot appended last
    cases hl
    exact ⟨by omega, st.snap, by simp, hid ▸ hs.snapId⟩
  · -- older entries point into the old part of the history
    obtain ⟨h1, s, h2, h3⟩ := h.idx id seq hl
    have hlt : seq - 1 < db.snaps.length := (List.getElem?_eq_some_iff.1 h2).1
    exact ⟨h1, s, by rw [List.getElem?_append_left hlt]; exact h2, h3⟩

theorem run_eq_of_fixed {d : DB} {l : List Op} (h : ∀ op ∈ l, (step d op).1 = d) : run d l = d := by
  induction l with
  | nil => rfl
  | cons op l ih =>
    rw [run, h op List.mem_cons_self]
    exact ih fun o ho => h o (List.mem_cons_of_mem _ ho)

end Pool.C06
