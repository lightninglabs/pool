import PoolProofs.C15LemmasStr
/-! C19, tickets: the TLV decoding loop of the model never reaches `panic` when the record size is capped and every
record decoder is safe below the cap (`RecSafe`); the records of sidecar/tlv.go are.  The ticket model writes its error
and panic branches out where the rpc model uses `>>=`, so `simp` cannot go through it as in C19LemmasRpc.  Instead
`fun_cases` / `fun_induction` lists the leaves of the model function: those that return `panic` are the ones where a
callee has, which its lemma excludes; every other leaf returns a value or an error (`nofun`). -/
namespace Pool.Dec

theorem readVarInt_lt {inp : Bytes} {v : Nat} {rest : Bytes} (h : readVarInt inp = .ok v rest) :
    rest.length < inp.length := by
  cases inp with
  | nil => cases h
  | cons d tl =>
    -- every `.ok` leaf of `readVarInt` returns `tl` without some leading bytes
    let P (r : VarRes) : Prop := r = .ok v rest → ∃ k, rest = tl.drop k
    have leaf (x k : Nat) : P (.ok x (tl.drop k)) := fun h => by cases h; exact ⟨k, rfl⟩
    have wide (w x : Nat) (c : Prop) [Decidable c] :
        P (if tl.length < w then .ueof else if c then .noncanon else .ok x (tl.drop w)) :=
      guard_cases nofun fun _ => guard_cases nofun fun _ => leaf x w
    have : P (readVarInt (d :: tl)) :=
      guard_cases (leaf _ 0) fun _ => guard_cases (wide 2 _ _) fun _ => guard_cases (wide 4 _ _) fun _ => wide 8 _ _
    obtain ⟨k, rfl⟩ := this h
    simp only [List.length_cons, List.length_drop]; omega

/-- a record decoder is safe below the cap: no panic, and it never returns more input than it got -/
def RecSafe {σ : Type} (cap : Nat) (r : Rec σ) : Prop :=
  ∀ l, l ≤ cap → ∀ inp s, r.dec l inp s ≠ .panic ∧
    ∀ s' rest, r.dec l inp s = .ok (s', rest) → rest.length ≤ inp.length

theorem getRecord_mem {σ : Type} {recs recs' : List (Rec σ)} {typ : Nat} {o : Option (Rec σ)}
    (h : getRecord recs typ = (o, recs')) : (∀ r, o = some r → r ∈ recs) ∧ ∀ r ∈ recs', r ∈ recs := by
  fun_induction getRecord recs typ with
  | case3 r rs typ _ _ ih => exact ⟨fun x hx => .tail _ ((ih h).1 x hx), fun x hx => .tail _ ((ih h).2 x hx)⟩
  | _ => cases h; simp +contextual

theorem copyN_safe (len : Nat) (inp : Bytes) :
    copyN len inp ≠ .panic ∧ ∀ rest, copyN len inp = .ok rest → rest.length ≤ inp.length := by
  fun_cases copyN len inp <;> exact ⟨nofun, fun _ h => by cases h <;> simp⟩

/-- running out of fuel is a panic of the model, so this also says that the loop ends -/
theorem decodeLoop_ne_panic {σ : Type} (maxAlloc : Nat) (hm : maxRecordSize ≤ maxAlloc) (wt : Bool)
    (fuel : Nat) (recs : List (Rec σ)) (hs : ∀ r ∈ recs, RecSafe maxRecordSize r)
    (min : Nat) (inp : Bytes) (s : σ) (parsed : List Nat) (hlen : inp.length < fuel) :
    decodeLoop true maxAlloc wt fuel recs min inp s parsed ≠ .panic := by
  fun_induction decodeLoop true maxAlloc wt fuel recs min inp s parsed with
  | case1 => omega  -- out of fuel: `hlen`
  | case10 fuel recs min inp s parsed typ inp1 h1 _ len inp2 h2 hcap r recs' hg s' inp3 hd ih =>
    -- a known record was decoded: the loop goes on with less input
    obtain ⟨hr, hrecs'⟩ := getRecord_mem hg
    have := (hs r (hr r rfl) len (by simpa using hcap) inp2 s).2 s' inp3 hd
    have := readVarInt_lt h1
    have := readVarInt_lt h2
    exact ih (fun x hx => hs x (hrecs' x hx)) (by omega)
  | case12 fuel recs min inp s parsed typ inp1 _ _ len inp2 _ hcap r recs' hg hd =>
    exact absurd hd (hs r ((getRecord_mem hg).1 r rfl) len (by simpa using hcap) inp2 s).1
  | case13 fuel recs min inp s parsed typ inp1 h1 _ len inp2 h2 _ recs' hg _ inp3 hc ih =>
    -- an unknown record was skipped
    have := (copyN_safe len inp2).2 inp3 hc
    have := readVarInt_lt h1
    have := readVarInt_lt h2
    exact ih (fun x hx => hs x ((getRecord_mem hg).2 x hx)) (by omega)
  | case15 fuel recs min inp s parsed typ inp1 _ _ len inp2 _ _ recs' _ _ hc => exact absurd hc (copyN_safe len inp2).1
  | case17 fuel recs min inp s parsed typ inp1 _ _ len inp2 _ hcap recs' _ ha =>
    -- the cap keeps the buffer for an unknown record below `maxAlloc`
    have : len ≤ maxRecordSize := by simpa using hcap
    split at ha
    · rw [alloc_ok (by omega)] at ha; cases ha
    · cases ha
  | _ => nofun

theorem decodeStream_ne_panic {σ : Type} {maxAlloc : Nat} (hm : maxRecordSize ≤ maxAlloc) {wt : Bool}
    {recs : List (Rec σ)} (hs : ∀ r ∈ recs, RecSafe maxRecordSize r) {inp : Bytes} {s : σ} :
    decodeStream true maxAlloc wt recs inp s ≠ .panic := by
  fun_cases decodeStream true maxAlloc wt recs inp s with
  | case1 => exact decodeLoop_ne_panic maxAlloc hm wt _ recs hs 0 inp s [] (by omega)
  | case2 => nofun

theorem readFull_cases (n : Nat) (inp : Bytes) :
    readFull n inp = .err .eof ∨ ∃ v rest, readFull n inp = .ok (v, rest) ∧ rest.length ≤ inp.length := by
  unfold readFull
  split
  · exact .inl rfl
  · exact .inr ⟨_, _, rfl, by simp⟩

/-! The `RecSafe` facts below are `simp` rules, so that a record table is safe by `simp [offerRecs]` and the like:
`simp` goes through the rows and discharges `hc` with `checkPubKey_ne_panic` / `checkSig_ne_panic`. -/

@[simp] theorem dChecked_safe {σ : Type} {t : Nat} (cap size : Nat) (check : Bytes → σ → Outcome σ)
    (hc : ∀ v s, check v s ≠ .panic) : RecSafe cap ⟨t, dChecked size check⟩ := by
  intro l _ inp s
  by_cases hl : l = size
  · rcases readFull_cases size inp with h | ⟨v, rest, h, hle⟩
    · simp [dChecked, h, hl]
    · have := hc v s
      cases hv : check v s <;> simp_all [dChecked]
  · simp [dChecked, hl]

@[simp] theorem dStatic_safe {σ : Type} {t : Nat} (cap size : Nat) (set : Bytes → σ → σ) :
    RecSafe cap ⟨t, dStatic size set⟩ :=
  dStatic_eq_dChecked size set ▸ dChecked_safe cap size _ (by simp)

@[simp] theorem dVarBytes_safe {σ : Type} {t : Nat} (cfg : Cfg) (hm : maxRecordSize ≤ cfg.maxAlloc) (set : Bytes → σ → σ) :
    RecSafe maxRecordSize ⟨t, dVarBytes cfg set⟩ := by
  intro l hl inp s
  rcases readFull_cases l inp with h | ⟨v, rest, h, hle⟩
  · simp [dVarBytes, alloc_ok (Nat.le_trans hl hm), h]
  · simp [dVarBytes, alloc_ok (Nat.le_trans hl hm), h, hle]

@[simp] theorem checkPubKey_ne_panic {σ : Type} (set : Bytes → σ → σ) (v : Bytes) (s : σ) :
    checkPubKey set v s ≠ .panic := by
  fun_cases checkPubKey set v s <;> nofun

@[simp] theorem checkSig_ne_panic {σ : Type} (set : Sig → σ → σ) (v : Bytes) (s : σ) :
    checkSig set v s ≠ .panic := by
  fun_cases checkSig set v s <;> nofun

theorem decodeBytes_ne_panic {σ : Type} {cfg : Cfg} (hp : cfg.p2pSub = true) (hm : maxRecordSize ≤ cfg.maxAlloc)
    {recs : List (Rec σ)} (hs : ∀ r ∈ recs, RecSafe maxRecordSize r) {b : Bytes} {s : σ} :
    decodeBytes cfg recs b s ≠ .panic := by
  fun_cases decodeBytes cfg recs b s with
  | case3 h => exact absurd (hp ▸ h) (decodeStream_ne_panic hm hs)
  | _ => nofun

theorem deserializeOffer_ne_panic (cfg : Cfg) (hp : cfg.p2pSub = true) (hm : maxRecordSize ≤ cfg.maxAlloc)
    (b : Bytes) : deserializeOffer cfg b ≠ .panic := by
  fun_cases deserializeOffer cfg b with
  | case3 h => exact absurd h (decodeBytes_ne_panic hp hm (by simp [offerRecs]))
  | _ => nofun

theorem optPart_ne_panic {α : Type} {p : Bool} {f : Outcome α} (h : f ≠ .panic) : optPart p f ≠ .panic := by
  fun_cases optPart p f with
  | case3 => exact absurd rfl h
  | _ => nofun

theorem deserializeTicket_ne_panic (cfg : Cfg) (ht : cfg.p2pTop = true) (hp : cfg.p2pSub = true)
    (hm : maxRecordSize ≤ cfg.maxAlloc) (b : Bytes) : deserializeTicket cfg b ≠ .panic := by
  have part {σ : Type} {p : Bool} {recs : List (Rec σ)} (hs : ∀ r ∈ recs, RecSafe maxRecordSize r) {b : Bytes} {s : σ} :
      optPart p (decodeBytes cfg recs b s) ≠ .panic := optPart_ne_panic (decodeBytes_ne_panic hp hm hs)
  fun_cases deserializeTicket cfg b with
  | case2 h => exact absurd (ht ▸ h) (decodeStream_ne_panic hm (by simp [ticketRecs, hm]))
  | case4 a parsed _ h =>
    split at h
    · exact absurd h (deserializeOffer_ne_panic cfg hp hm _)
    · cases h
  | case6 a parsed _ offer _ h => exact absurd h (part (by simp [recipientRecs]))
  | case8 a parsed _ offer _ recipient _ h => exact absurd h (part (by simp [orderRecs]))
  | case10 a parsed _ offer _ recipient _ order _ h => exact absurd h (part (by simp [executionRecs]))
  | _ => nofun

/-- base58.Decode never asks for more than `len(s)` bytes: the leading `'1'`s are counted as they are, and the other
`k` characters are worth less than `58^k ≤ 256^k`. -/
theorem b58Decode_ne_panic (m : Nat) (s : Bytes) (h : s.length ≤ m) : b58Decode m s ≠ .panic := by
  unfold b58Decode
  cases hd : b58Digits s with
  | none => simp
  | some ds =>
    simp only
    have hs := split_leading (b58Char 0) s
    rw [hs, b58Digits_ones] at hd
    obtain ⟨rest, hr, rfl⟩ := Option.map_eq_some_iff.1 hd
    obtain ⟨hlen, hlt⟩ := b58Digits_spec _ rest hr
    have hv : digitsValue (List.replicate (leadingCount (b58Char 0) s) 0 ++ rest) < 256 ^ rest.length := by
      rw [digitsValue_zeros]
      have := digitsValue_lt rest hlt
      have hp : 58 ^ rest.length ≤ 256 ^ rest.length := Nat.pow_le_pow_left (by omega) _
      omega
    have hl : (natBytes (digitsValue _)).length ≤ rest.length := natBytesF_length _ _ _ hv
    have : s.length = leadingCount (b58Char 0) s + rest.length := by
      conv => lhs; rw [hs]
      simp [hlen]
    rw [alloc_ok (by omega)]
    simp

theorem decodeString_ne_panic (H : Bytes → Bytes) (hH : ∀ x, 4 ≤ (H x).length) (cfg : Cfg)
    (ht : cfg.p2pTop = true) (hp : cfg.p2pSub = true) (hm : maxRecordSize ≤ cfg.maxAlloc) (s : Bytes)
    (hs : s.length ≤ cfg.maxAlloc) : decodeString H cfg s ≠ .panic := by
  rw [decodeString_eq H hH cfg s]
  have hb := b58Decode_ne_panic cfg.maxAlloc (s.drop 7) (by simp only [List.length_drop]; omega)
  exact Outcome.ite_err_ne_panic <| Outcome.bind_ne_panic hb fun _ => Outcome.ite_err_ne_panic <|
    Outcome.ite_err_ne_panic <| Outcome.ite_err_ne_panic <| deserializeTicket_ne_panic cfg ht hp hm _

end Pool.Dec
