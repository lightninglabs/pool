import PoolProofs.C04Lemmas

/-! C04 at the level of script bytes: what `ScriptBuilder` appends while the script fits `MaxScriptSize`
(`Builder.Yields`), hence the bytes of the two scripts built from the regenerated call lists and what `parseScript`
makes of them; the regenerated witness layouts and what the spend handler's classification makes of them. -/
namespace Pool.C04

theorem canonicalDataSize_eq (d : Bytes) : canonicalDataSize d = (addDataBytes d).length := by
  unfold canonicalDataSize addDataBytes
  split
  · rfl
  · split <;> (try split) <;> (try split) <;> simp_all <;> omega
  · simp only []
    split <;> (try split) <;> (try split) <;> simp [leN] <;> omega

theorem addDataBytes_long (d : Bytes) {n : Nat} (hn : d.length = n) (h2 : 2 ≤ n := by decide)
    (h : n < 0x4c := by decide) : addDataBytes d = UInt8.ofNat n :: d := by
  subst hn
  match d with
  | [] => simp at h2
  | [_] => simp at h2
  | a :: b :: r => simp [addDataBytes] at h ⊢; omega

theorem addDataBytes_length_pos (d : Bytes) : 0 < (addDataBytes d).length := by
  unfold addDataBytes
  split
  · simp
  · repeat' split
    all_goals simp
  · dsimp only
    repeat' split
    all_goals simp

theorem addDataBytes_length_le_iff (d : Bytes) (k : Nat) (hd : d.length < 0x4c) (hk : 1 ≤ k) :
    (addDataBytes d).length ≤ k + 1 ↔ d.length ≤ k := by
  match d with
  | [] => simp [addDataBytes]
  | [b] =>
    simp only [addDataBytes]
    repeat' split
    all_goals simp
    all_goals omega
  | a :: b :: r => simp [addDataBytes] at hd ⊢; simp [hd]

/-- Every builder call preserves this without a side condition on the length, so the size check is made once, on
the finished script.  Strictly shorter: `AddInt64` wants room for one byte before it looks at the value. -/
def Builder.Yields (b : Builder) (s : Bytes) : Prop := s.length < MaxScriptSize → b = ⟨s, false⟩

theorem Builder.Yields.empty : Builder.Yields {} [] := fun _ => rfl

theorem Builder.Yields.addOp {b : Builder} {s : Bytes} (hb : b.Yields s) (op : UInt8) :
    (b.addOp op).Yields (s ++ [op]) := by
  intro h
  simp only [List.length_append, List.length_singleton] at h
  have h' : ¬ s.length + 1 > MaxScriptSize := by omega
  simp [hb (by omega), Builder.addOp, h']

theorem Builder.Yields.addData {b : Builder} {s : Bytes} (hb : b.Yields s) (d : Bytes)
    (hd : d.length ≤ MaxScriptElementSize) : (b.addData d).Yields (s ++ addDataBytes d) := by
  intro h
  simp only [List.length_append] at h
  have h1 : ¬ s.length + (addDataBytes d).length > MaxScriptSize := by omega
  have h2 : ¬ d.length > MaxScriptElementSize := by omega
  simp [hb (by omega), Builder.addData, canonicalDataSize_eq, h1, h2]

/-- `AddInt64 v` is `AddData` of the script number: its fast paths for 0 and 1 … 16 write the opcodes that
`addDataBytes` chooses for `[]` and `[v]`. -/
theorem Builder.Yields.addInt64 {b : Builder} {s : Bytes} (hb : b.Yields s) (v : Nat)
    (hv : (scriptNumBytes v).length ≤ MaxScriptElementSize) :
    (b.addInt64 v).Yields (s ++ addDataBytes (scriptNumBytes v)) := by
  intro h
  have hl : s.length < MaxScriptSize := by simp only [List.length_append] at h; omega
  have h1 : ¬ s.length + 1 > MaxScriptSize := by omega
  have hs := hb hl
  by_cases v0 : v = 0
  · simp [hs, Builder.addInt64, h1, v0, scriptNumBytes, addDataBytes]
  by_cases v16 : v ≤ 16
  · have hm : v % 256 = v := by omega
    simp [hs, Builder.addInt64, h1, v0, v16, scriptNumBytes_of_lt_128 v v0 (by omega), addDataBytes, hm]
  · simpa [hs, Builder.addInt64, h1, v0, v16] using hb.addData _ hv h

theorem addDataBytes_scriptNum_length_le_iff {e : Nat} (k : Nat) (he : e < 2 ^ 32) (hk : 1 ≤ k) :
    (addDataBytes (scriptNumBytes e)).length ≤ k + 1 ↔ 2 * e < 256 ^ k :=
  (addDataBytes_length_le_iff _ k (Nat.lt_of_le_of_lt (numOK_scriptNum he).len (by decide)) hk).trans
    (scriptNumBytes_length_le_iff e k (by omega))

theorem accountWitnessScript_eq {e : Nat} {tk ak : Bytes} (htk : tk.length = 33) (hak : ak.length = 33)
    (he : e < 2 ^ 32) :
    accountWitnessScript e tk ak =
      addDataBytes tk ++ [OP_CHECKSIGVERIFY] ++ addDataBytes ak ++ [OP_CHECKSIG, OP_IFDUP, OP_NOTIF] ++
        addDataBytes (scriptNumBytes e) ++ [OP_CHECKLOCKTIMEVERIFY, OP_ENDIF] := by
  have hl := (numOK_scriptNum he).len
  have hp := (addDataBytes_scriptNum_length_le_iff 5 he (by decide)).mpr (by omega)
  have hb := ((((((((Builder.Yields.empty.addData tk (by simp [htk, MaxScriptElementSize])).addOp
    OP_CHECKSIGVERIFY).addData ak (by simp [hak, MaxScriptElementSize])).addOp OP_CHECKSIG).addOp OP_IFDUP).addOp
    OP_NOTIF).addInt64 e (by simp [MaxScriptElementSize]; omega)).addOp OP_CHECKLOCKTIMEVERIFY).addOp OP_ENDIF
  have hB := hb (by
    simp only [List.length_append, addDataBytes_long tk htk,
      addDataBytes_long ak hak, htk, hak, MaxScriptSize, List.length_cons, List.length_nil]
    omega)
  simp [accountWitnessScript, accountWitnessScriptB, runCalls, Gen.C04.accountWitnessScriptCalls, opcodeByName, hB]

theorem taprootExpiryScript_eq {e : Nat} {tkx : Bytes} (htk : tkx.length = 32) (he : e < 2 ^ 32) :
    taprootExpiryScript e tkx =
      addDataBytes tkx ++ [OP_CHECKSIGVERIFY] ++ addDataBytes (scriptNumBytes e) ++ [OP_CHECKLOCKTIMEVERIFY] := by
  have hl := (numOK_scriptNum he).len
  have hp := (addDataBytes_scriptNum_length_le_iff 5 he (by decide)).mpr (by omega)
  have hb := (((Builder.Yields.empty.addData tkx (by simp [htk, MaxScriptElementSize])).addOp
    OP_CHECKSIGVERIFY).addInt64 e (by simp [MaxScriptElementSize]; omega)).addOp OP_CHECKLOCKTIMEVERIFY
  have hB := hb (by
    simp only [List.length_append, addDataBytes_long tkx htk, htk, MaxScriptSize,
      List.length_cons, List.length_nil]
    omega)
  simp [taprootExpiryScript, taprootExpiryScriptB, runCalls, Gen.C04.taprootExpiryScriptCalls, opcodeByName, hB]

theorem parseAux_nil (f : Nat) : parseAux f [] = some [] := by cases f <;> rfl

/-- `parseScript` reads back what `AddData` wrote, for every direct push; only `[0]` is written as OP_0 and comes
back as `[]`. -/
theorem parse_addData (f : Nat) (d rest : Bytes) (hd : d.length < 0x4c) (h0 : d ≠ [0]) :
    parseAux (f + 1) (addDataBytes d ++ rest) = (parseAux f rest).map (Instr.push d :: ·) := by
  by_cases h2 : 2 ≤ d.length
  · have hm : d.length % 256 = d.length := by omega
    have hs : isSmallIntPush d = false := match d, h2 with | _ :: _ :: _, _ => rfl
    have h0' : ¬ d.length = 0 := by omega
    simp [addDataBytes_long d rfl h2 hd, parseAux, hm, h0', hd, hs]
    intro hc; omega
  match d with
  | [] => simp [addDataBytes, parseAux, OP_0]
  | [b] =>
    have hb : b.toNat ≠ 0 := fun h => h0 (congrArg (· :: []) (UInt8.toNat_inj.mp h))
    have := b.toNat_lt
    unfold addDataBytes
    simp only [hb, if_false]
    split
    · -- OP_1 … OP_16
      have : (80 + b.toNat) % 256 = 80 + b.toNat := by omega
      simp [parseAux, this]
      rw [if_neg (by omega), if_neg (by omega), if_neg (by omega), if_pos (by omega)]
    · split
      · simp [parseAux, OP_1NEGATE, show b = 129 from UInt8.toNat_inj.mp ‹_›]
      · simp [parseAux, isSmallIntPush, *]
  | _ :: _ :: _ => simp at h2

theorem parse_step_op (f : Nat) (rest : Bytes) :
    parseAux (f + 1) (OP_NOTIF :: rest) = (parseAux f rest).map (Instr.notif :: ·) ∧
    parseAux (f + 1) (OP_ENDIF :: rest) = (parseAux f rest).map (Instr.endif :: ·) ∧
    parseAux (f + 1) (OP_IFDUP :: rest) = (parseAux f rest).map (Instr.ifdup :: ·) ∧
    parseAux (f + 1) (OP_CHECKSIG :: rest) = (parseAux f rest).map (Instr.checksig :: ·) ∧
    parseAux (f + 1) (OP_CHECKSIGVERIFY :: rest) = (parseAux f rest).map (Instr.checksigverify :: ·) ∧
    parseAux (f + 1) (OP_CHECKLOCKTIMEVERIFY :: rest) = (parseAux f rest).map (Instr.cltv :: ·) := by
  simp [parseAux, OP_NOTIF, OP_ENDIF, OP_IFDUP, OP_CHECKSIG, OP_CHECKSIGVERIFY, OP_CHECKLOCKTIMEVERIFY]

theorem accountWitnessScript_length {e : Nat} {tk ak : Bytes} (htk : tk.length = 33) (hak : ak.length = 33)
    (he : e < 2 ^ 32) :
    (accountWitnessScript e tk ak).length = 74 + (addDataBytes (scriptNumBytes e)).length := by
  rw [accountWitnessScript_eq htk hak he, addDataBytes_long tk htk,
    addDataBytes_long ak hak]
  simp [htk, hak]; omega

theorem taprootExpiryScript_length {e : Nat} {tkx : Bytes} (htk : tkx.length = 32) (he : e < 2 ^ 32) :
    (taprootExpiryScript e tkx).length = 35 + (addDataBytes (scriptNumBytes e)).length := by
  rw [taprootExpiryScript_eq htk he, addDataBytes_long tkx htk]
  simp [htk]; omega

theorem parse_accountWitnessScript {e : Nat} {tk ak : Bytes} (htk : tk.length = 33) (hak : ak.length = 33)
    (he : e < 2 ^ 32) :
    parseScript (accountWitnessScript e tk ak) = some (accountInstrs e tk ak) := by
  have hl := (numOK_scriptNum he).len
  have hz := scriptNumBytes_ne_zero_byte e (by omega)
  have htz : tk ≠ [0] := by rintro rfl; simp at htk
  have haz : ak ≠ [0] := by rintro rfl; simp at hak
  -- fuel as `_ + 9`: each of the nine step lemmas takes one successor off
  rw [parseScript, accountWitnessScript_length htk hak he, accountWitnessScript_eq htk hak he,
    show 74 + (addDataBytes (scriptNumBytes e)).length = 65 + (addDataBytes (scriptNumBytes e)).length + 9 by omega]
  simp [parse_addData, parse_step_op, parseAux_nil, htk, hak, hz, htz, haz, Nat.lt_of_le_of_lt hl, accountInstrs]

theorem parse_taprootExpiryScript {e : Nat} {tkx : Bytes} (htk : tkx.length = 32) (he : e < 2 ^ 32) :
    parseScript (taprootExpiryScript e tkx) = some (taprootInstrs e tkx) := by
  have hl := (numOK_scriptNum he).len
  have hz := scriptNumBytes_ne_zero_byte e (by omega)
  have htz : tkx ≠ [0] := by rintro rfl; simp at htk
  rw [parseScript, taprootExpiryScript_length htk he, taprootExpiryScript_eq htk he,
    show 35 + (addDataBytes (scriptNumBytes e)).length = 31 + (addDataBytes (scriptNumBytes e)).length + 4 by omega]
  simp [parse_addData, parse_step_op, parseAux_nil, htk, hz, htz, Nat.lt_of_le_of_lt hl, taprootInstrs]

theorem classify_eq (w : List Bytes) : classify w =
    if isExpirySpend w || isTaprootExpirySpend w then .expiry
    else if isMultiSigSpend w || isTaprootMultiSigSpend w then .multisig else .unknown := by
  simp [classify, classifyWith, Gen.C04.handleAccountSpendCases, classifierByName, casePath]

theorem spendMultiSig_eq (s σt σa : Bytes) : spendMultiSig s σt σa = some [σa, σt, s] := by
  simp [spendMultiSig, witnessFromLayout, Gen.C04.spendMultiSigLayout]
theorem spendExpiry_eq (s σt : Bytes) : spendExpiry s σt = some [[], σt, s] := by
  simp [spendExpiry, witnessFromLayout, Gen.C04.spendExpiryLayout]
theorem spendMuSig2Taproot_eq (σ : Bytes) : spendMuSig2Taproot σ = some [σ] := by
  simp [spendMuSig2Taproot, witnessFromLayout, Gen.C04.spendMuSig2TaprootLayout]
theorem spendExpiryTaproot_eq (s σt cb : Bytes) : spendExpiryTaproot s σt cb = some [σt, s, cb] := by
  simp [spendExpiryTaproot, witnessFromLayout, Gen.C04.spendExpiryTaprootLayout]

/-- `HandleAccountSpend`'s switch on a three-element witness that begins with a signature.  A control block
beginning 0x50 makes it annexed: the two elements left fail `IsTaprootExpirySpend`, as 0x50 fails the test on `c0`. -/
theorem classify_three_of_ne_nil (w0 s cb : Bytes) (h0 : w0 ≠ []) :
    classify [w0, s, cb] =
      if 33 ≤ cb.length ∧ (Gen.C04.taprootExpiryMinScriptLen ≤ s.length ∧
          s.length ≤ Gen.C04.TaprootExpiryScriptSize) ∧ (∃ c0 ∈ cb.head?, c0.toNat = 0xc0 ∨ c0.toNat = 0xc1) ∧
          (∃ s0 ∈ s.head?, s0.toNat = 0x20) ∧ (∃ sl ∈ s.getLast?, sl.toNat = 0xb1)
      then .expiry else .multisig := by
  cases w0 with
  | nil => exact absurd rfl h0
  | cons a as =>
    cases cb with
    | nil => simp [classify_eq, isExpirySpend, isTaprootExpirySpend, hasAnnex, isMultiSigSpend]
    | cons c0 rest =>
      by_cases h50 : c0.toNat = 0x50
      · simp [classify_eq, isExpirySpend, isTaprootExpirySpend, hasAnnex, isMultiSigSpend, h50]
      · cases hh : s.head? <;> cases hl : s.getLast? <;>
        simp [classify_eq, isExpirySpend, isTaprootExpirySpend, hasAnnex, isMultiSigSpend, hh, hl, h50]

theorem classify_spendExpiryTaproot {e : Nat} {tkx σt key : Bytes} {v : UInt8} (hx : tkx.length = 32)
    (he : e < 2 ^ 32) (hσt : σt ≠ []) (hkey : key.length = 32) (hv : v.toNat = 0xc0 ∨ v.toNat = 0xc1) :
    (spendExpiryTaproot (taprootExpiryScript e tkx) σt (v :: key)).map classify =
      some (if e < 2 ^ 23 then .expiry else .multisig) := by
  have hl := taprootExpiryScript_length hx he
  have hp := addDataBytes_length_pos (scriptNumBytes e)
  have h3 := addDataBytes_scriptNum_length_le_iff 3 he (by decide)
  have hT := taprootExpiryScript_eq hx he
  have hhead : (taprootExpiryScript e tkx).head? = some 0x20 := by
    rw [hT, addDataBytes_long tkx hx]; rfl
  have hlast : (taprootExpiryScript e tkx).getLast? = some 0xb1 := by rw [hT, List.getLast?_append]; rfl
  rw [spendExpiryTaproot_eq, Option.map_some, classify_three_of_ne_nil _ _ _ hσt]
  simp only [List.length_cons, List.head?_cons, hkey, hhead, hlast, hl, Gen.C04.taprootExpiryMinScriptLen,
    Gen.C04.TaprootExpiryScriptSize]
  by_cases h : e < 2 ^ 23
  · rw [if_pos h, if_pos ⟨by omega, by omega, ⟨_, rfl, hv⟩, ⟨_, rfl, rfl⟩, ⟨_, rfl, rfl⟩⟩]
  · rw [if_neg h, if_neg (fun c => by omega)]

end Pool.C04
