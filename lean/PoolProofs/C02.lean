import PoolProofs.C02Lemmas
/-! C02 — an accepted batch debits each account exactly and returns change to its own script.  About the model of the
**repaired** `batchVerifier.Verify` (`Rules.fixed`), with the negation for the code as found (`Rules.pinned`) on
concrete witnesses.  `ChargedExactly` (`BatchSpec.lean`) is the property for one account diff. -/
namespace Pool.C02
open Pool.Batch

/-- **C02.** Inside the overflow guard `NoOverflow` (wire ranges, no int64/uint32 overflow in the fee arithmetic),
if the repaired `Verify` accepts then every account diff is charged exactly, and no account is charged twice. -/
theorem C02_accept_debits_exact (env : Env) (b : Batch) (best : UInt32) (st : Tallies)
    (hg : NoOverflow env b) (h : verify env Rules.fixed b best = .ok st) :
    (∀ d ∈ b.diffs, ChargedExactly env b best d) ∧ (b.diffs.map (·.acctKey)).Nodup := by
  have hacc := Accepted.of_verify h
  obtain ⟨hds, hnd⟩ := hacc.diffs.forall_of_rejectDuplicates rfl
  refine ⟨fun d hd => ?_, hnd⟩
  obtain ⟨_, e, he, hc⟩ := hds d hd
  simp only [← chargedTo_eq_contribs, tallyAt_eq_some] at he
  obtain ⟨hne, a, ha, rfl⟩ := he
  obtain ⟨hk, hmem⟩ := findAcct_key ha
  exact ⟨a, ha, hne, hc.1.trans (hk ▸ balance_spec hg hacc.orders hmem), endingClause_of_checks hc⟩

/-- the same for the manager entry point -/
theorem C02_orderMatchValidate_debits_exact (env : Env) (b : Batch) (best : UInt32) (pending : Option String)
    (st : Tallies) (hg : NoOverflow env b)
    (h : (orderMatchValidate env Rules.fixed b best pending).1 = .ok st) :
    ∀ d ∈ b.diffs, ChargedExactly env b best d :=
  (C02_accept_debits_exact env b best st hg (orderMatchValidate_eq_ok.mp h).1).1

/-- when the prescribed balance itself fits int64 the stated balance equals it exactly -/
theorem C02_balance_exact (env : Env) (b : Batch) (best : UInt32) (d : Diff)
    (h : ChargedExactly env b best d) :
    ∃ a, findAcct d.acctKey env.accounts = some a ∧
      (I64 (specEndingBalance env b a) → d.endingBalance = specEndingBalance env b a) := by
  obtain ⟨a, hfa, _, hbal, _⟩ := h
  exact ⟨a, hfa, fun hi => by rw [hbal, w64_eq_self hi]⟩

/-- the verdict on a proposal does not depend on the pending batch left by earlier proposals -/
theorem C02_verdict_independent_of_pending (env : Env) (rules : Rules) (b : Batch) (best : UInt32)
    (p p' : Option String) :
    (orderMatchValidate env rules b best p).1 = (orderMatchValidate env rules b best p').1 := by
  unfold orderMatchValidate
  cases verify env rules b best with
  | error e => rfl
  | ok st => cases nodeFilter env b.matched <;> rfl

/-- **Statelessness.** On one long-lived manager, whatever proposals came before (same or other batch IDs, accepted
or rejected, any database states), the verdict on a proposal is the verdict it gets in isolation against the
environment of its own time. -/
theorem C02_verdict_history_independent (rules : Rules) :
    ∀ (seq : List (Env × Batch × UInt32)) (p : Option String),
      (validateSeq rules seq p).1 = seq.map fun x => (orderMatchValidate x.1 rules x.2.1 x.2.2 none).1 := by
  intro seq
  induction seq with
  | nil => intro p; rfl
  | cons x rest ih =>
    intro p
    obtain ⟨env, b, best⟩ := x
    simp only [validateSeq, List.map_cons]
    rw [ih, C02_verdict_independent_of_pending env rules b best p none]

/-- hence every accepted proposal of any sequence debits exactly, w.r.t. the accounts as stored at that time -/
theorem C02_sequence_debits_exact (seq : List (Env × Batch × UInt32)) (p : Option String) :
    ∀ x ∈ seq.zip (validateSeq Rules.fixed seq p).1, ∀ st, x.2 = .ok st → NoOverflow x.1.1 x.1.2.1 →
      ∀ d ∈ x.1.2.1.diffs, ChargedExactly x.1.1 x.1.2.1 x.1.2.2 d := by
  rw [C02_verdict_history_independent, ← List.map_prod_left_eq_zip]
  intro x hx st hst hg
  obtain ⟨⟨env, b, best⟩, _, rfl⟩ := List.mem_map.mp hx
  exact C02_orderMatchValidate_debits_exact env b best none st hg hst

/-- non-vacuity / illustration: the hostile over-long-expiry proposal, then the honest one twice for the same batch
ID, on one manager: rejected, accepted, accepted – the rejected first attempt leaves nothing behind -/
example : ((validateSeq Rules.fixed [(exEnv, exBatchExp, 101), (exEnv, exBatch, 101), (exEnv, exBatch, 101)] none).1.map isOk)
    = [false, true, true] := by decide +kernel

/-- **Regenerated facts** behind the two modelling decisions "the verifier has no state" and "script derivation is a
function of its arguments": `batchVerifier` has exactly its five start-up fields, `Verify` / `validateMatchedOrder` /
`validateChannelOutput` assign to none of them, and the poolscript helpers under `NextOutputScript` / `FundingOutput`
read no package-level variable (no cache, no pool). -/
theorem C02_verifier_and_script_helpers_stateless :
    Pool.Gen.Batch.verifierFields = ["orderStore", "getAccount", "wallet", "ourNodePubkey", "version"] ∧
    Pool.Gen.Batch.verifierFieldWrites = [] ∧ Pool.Gen.Batch.scriptHelperGlobals = [] := by decide +kernel

/-- the two-order proposal of `BatchExamples` meets the hypotheses (guard + acceptance by the repaired code) … -/
example : NoOverflow exEnv exBatch ∧ isOk (verify exEnv Rules.fixed exBatch 101) = true :=
  ⟨exBatch_noOverflow, exBatch_accepted⟩
/-- … so does a proposal that leaves the account with dust (500 sat < 678 sat) … -/
example : NoOverflow exEnvDust exBatchDust ∧ isOk (verify exEnvDust Rules.fixed exBatchDust 101) = true := by decide +kernel
/-- … and ±1 on the ending balance (with the output following) is rejected. -/
example : isOk (verify exEnv Rules.fixed { exBatch with
    diffs := [{ exDiff with endingBalance := 647809 }],
    txOuts := [⟨300000, "fund-false-K1-M1"⟩, ⟨647809, "acct-A-1-40000"⟩, ⟨450000, "fund-true-R-M2"⟩] } 101) = false := by
  decide +kernel

theorem C02_full_statement_fixed : C02_full_statement Rules.fixed :=
  fun env b best st hg h => (C02_accept_debits_exact env b best st hg h).1

/-! ## the code as found violates the property (three independent witnesses, replayed on the Go code by the
harness: `corpus/C02/defect-*.json`) -/

/-- code as found: a new expiry of 4 000 000 000 (more than a year after block 101) is accepted -/
theorem C02_pinned_accepts_overlong_expiry : ¬ C02_full_statement Rules.pinned :=
  not_full_statement_of_witness (b := exBatchExp) (best := 101) (d := exDiffExp) exBatch_noOverflow (by decide +kernel)
    (by decide) fun ⟨a, hfa, _, _, hend⟩ => by
      cases exAcct_of hfa
      exact absurd ((hend.bounds (by decide)).2 (by decide)) (by decide)

/-- code as found: an "upgrade" to the unknown account version 77 is accepted -/
theorem C02_pinned_accepts_unknown_version : ¬ C02_full_statement Rules.pinned :=
  not_full_statement_of_witness (b := exBatchVer) (best := 101) (d := exDiffVer) exBatch_noOverflow (by decide +kernel)
    (by decide) fun ⟨a, hfa, _, _, hend⟩ => by
      cases exAcct_of hfa
      exact absurd ((hend.bounds (by decide)).1 (by decide)) (by decide)

/-- code as found: a second diff for the same account, debited the chain fee twice, is accepted -/
theorem C02_pinned_accepts_duplicate_diff : ¬ C02_full_statement Rules.pinned :=
  not_full_statement_of_witness (b := exBatchDup) (best := 101) (d := exDiffDup) exBatch_noOverflow (by decide +kernel)
    (by decide) fun ⟨a, hfa, _, hbal, _⟩ => by
      cases exAcct_of hfa
      exact absurd hbal (by decide +kernel)

/-- the repaired code rejects all three witnesses -/
example : isOk (verify exEnv Rules.fixed exBatchExp 101) = false ∧ isOk (verify exEnv Rules.fixed exBatchVer 101) = false ∧
    isOk (verify exEnv Rules.fixed exBatchDup 101) = false := by decide +kernel

end Pool.C02
