import PoolProofs.C06Lemmas
/-! The specification machine `Spec = (visible, staged?)` and the proof that every operation of the database model
refines it (`step_refines`, `run_refines`).  `Spec.step` is written out for stage, complete, spend, discard, reopen,
reconnect and the branching of accountSpend; the six direct updates and accountSpend's closing `updateAccount` are the
model's own `C06.step` on `ofVis s.vis`, so of them refinement says only that they read `vis` and leave `staged`. -/
namespace Pool.C06

structure Spec where
  vis : Visible
  staged : Option Staged
deriving DecidableEq, Repr

def ofVis (v : Visible) : DB :=
  { accounts := v.accounts, orders := v.orders, snaps := v.snaps, index := v.index }

def abs (db : DB) : Spec := ⟨vis db, staged db⟩

/-- Staging never touches `vis`: a successful call REPLACES `staged` by a value computed from `vis` and the call's
arguments only, a failing call changes nothing.  Completing applies the staged value to `vis` and empties `staged`;
the reconnect check can only discard. -/
def Spec.step (s : Spec) : Op → Spec
  | .stage a =>
    match stageOut s.vis.accounts s.vis.orders a with
    | .ok o => { s with staged := some ⟨a.batchId, o.pa, o.po, o.snap⟩ }
    | .error _ => s
  | .complete =>
    match s.staged with
    | some st => ⟨applyStaged st s.vis, none⟩
    | none => s
  | .spend =>
    match s.staged with
    | some st => if readable s.vis st then ⟨applyStaged st s.vis, none⟩ else s
    | none => s
  | .discard => { s with staged := none }
  | .reopen => s
  | .reconnect rpc rm =>
    match s.staged with
    | some st => if readable s.vis st && discards st rpc rm then { s with staged := none } else s
    | none => s
  | .accountSpend k w tx h =>
    -- = the spend clause (multi-sig only) followed by the direct account update that closes the account
    match lookup k s.vis.accounts with
    | none => s
    | some _ =>
      match w with
      | .unknown => s
      | .expiry => { s with vis := C06.vis (C06.step (ofVis s.vis) (.updateAccount k (closeMods tx h))).1 }
      | .multiSigRecreate =>
        match s.staged with
        | some st => if readable s.vis st then ⟨applyStaged st s.vis, none⟩ else s
        | none => s
      | .multiSig =>
        match s.staged with
        | some st =>
          if readable s.vis st then
            let s1 : Spec := ⟨applyStaged st s.vis, none⟩
            { s1 with vis := C06.vis (C06.step (ofVis s1.vis) (.updateAccount k (closeMods tx h))).1 }
          else s      -- loading the staged batch fails: the handler returns the error
        | none => { s with vis := C06.vis (C06.step (ofVis s.vis) (.updateAccount k (closeMods tx h))).1 }
  | .addAccount k a => { s with vis := C06.vis (C06.step (ofVis s.vis) (.addAccount k a)).1 }
  | .submitOrder n o => { s with vis := C06.vis (C06.step (ofVis s.vis) (.submitOrder n o)).1 }
  | .updateOrder n m => { s with vis := C06.vis (C06.step (ofVis s.vis) (.updateOrder n m)).1 }
  | .deleteOrder n => { s with vis := C06.vis (C06.step (ofVis s.vis) (.deleteOrder n)).1 }
  | .updateOrders ns ms => { s with vis := C06.vis (C06.step (ofVis s.vis) (.updateOrders ns ms)).1 }
  | .updateAccount k m => { s with vis := C06.vis (C06.step (ofVis s.vis) (.updateAccount k m)).1 }

def Spec.run (s : Spec) : List Op → Spec
  | [] => s
  | op :: ops => Spec.run (s.step op) ops

theorem updateOrdersLoop_nodup {l : List (Key × List OMod)} {os : List (Key × Ord)} {ev os' ev'}
    (h : updateOrdersLoop l os ev = .ok (os', ev')) (hn : (keys os).Nodup) : (keys os').Nodup := by
  induction l generalizing os ev with
  | nil => cases h; exact hn
  | cons p r ih =>
    simp only [updateOrdersLoop] at h
    split at h
    · cases h
    · exact ih h (keys_upsert_nodup hn)

theorem refines_updateAccount (db : DB) (h : Coh db) (k : Key) (m : List AMod) :
    abs (step db (.updateAccount k m)).1 = (abs db).step (.updateAccount k m) ∧
      Coh (step db (.updateAccount k m)).1 := by
  simp only [step, updateAccountTx, Spec.step, abs, ofVis, vis]
  cases updateAccountCore db.accounts k m with
  | error e => exact ⟨rfl, h⟩
  | ok a =>
    simp only []
    cases storeA a with
    | error e => exact ⟨rfl, h⟩
    | ok a' => exact ⟨rfl, ⟨keys_upsert_nodup h.accN, h.ordN, h.pend, h.idx⟩⟩

theorem refines_updateOrdersTx (db : DB) (h : Coh db) (ns : List Key) (ms : List (List OMod)) :
    abs (commit db (updateOrdersTx ns ms db)).1 =
        { abs db with vis := vis (commit (ofVis (vis db)) (updateOrdersTx ns ms (ofVis (vis db)))).1 } ∧
      Coh (commit db (updateOrdersTx ns ms db)).1 := by
  rw [updateOrdersTx_eq, updateOrdersTx_eq]
  simp only [ofVis, vis]
  cases hl : updateOrdersLoop (ns.zip ms) db.orders [] with
  | error e => exact ⟨rfl, h⟩
  | ok x => exact ⟨rfl, ⟨h.accN, updateOrdersLoop_nodup hl h.ordN, h.pend, h.idx⟩⟩

theorem abs_of_noPending {db : DB} (h : NoPending db) : abs db = ⟨vis db, none⟩ :=
  congrArg (Spec.mk _) (staged_of_noPending h)

theorem abs_of_hasPending {db : DB} {st : Staged} (h : HasPending db st) : abs db = ⟨vis db, some st⟩ :=
  congrArg (Spec.mk _) (staged_of_hasPending h)

theorem refines_spend (db : DB) (h : Coh db) :
    abs (step db .spend).1 = (abs db).step .spend ∧ Coh (step db .spend).1 := by
  rcases h.pend with hn | ⟨st, hs, hp⟩
  · rw [step_spend_noPending hn, abs_of_noPending hn]; exact ⟨rfl, h⟩
  · rw [step_spend_pending hp, abs_of_hasPending hp]
    simp only [Spec.step]
    split
    · rw [step_complete_pending hp hs]; exact ⟨rfl, coh_afterComplete h hs⟩
    · exact ⟨abs_of_hasPending hp, h⟩

theorem refines_accountSpend (db : DB) (h : Coh db) (k : Key) (w : Witness) (tx ht : Nat) :
    abs (step db (.accountSpend k w tx ht)).1 = (abs db).step (.accountSpend k w tx ht) ∧
      Coh (step db (.accountSpend k w tx ht)).1 := by
  have hv : (abs db).vis.accounts = db.accounts := rfl
  rw [step_accountSpend]
  simp only [Spec.step, hv]
  cases lookup k db.accounts with
  | none => exact ⟨rfl, h⟩
  | some a =>
    cases w with
    | unknown => exact ⟨rfl, h⟩
    | expiry => exact refines_updateAccount db h k (closeMods tx ht)
    | multiSigRecreate => exact refines_spend db h
    | multiSig =>
      simp only []
      rcases h.pend with hn | ⟨st, hs, hp⟩
      · have hu := refines_updateAccount db h k (closeMods tx ht)
        rw [abs_of_noPending hn] at hu ⊢
        rw [step_spend_noPending hn]
        exact hu
      · rw [step_spend_pending hp, abs_of_hasPending hp]
        simp only []
        split
        · rw [step_complete_pending hp hs]
          exact refines_updateAccount _ (coh_afterComplete h hs) k (closeMods tx ht)
        · exact ⟨abs_of_hasPending hp, h⟩

theorem step_refines (db : DB) (h : Coh db) (op : Op) :
    abs (step db op).1 = (abs db).step op ∧ Coh (step db op).1 := by
  cases op with
  | reopen => exact ⟨rfl, h⟩
  | discard => exact ⟨rfl, coh_discard h⟩
  | updateAccount k m => exact refines_updateAccount db h k m
  | spend => exact refines_spend db h
  | accountSpend k w tx ht => exact refines_accountSpend db h k w tx ht
  | updateOrder n m => exact refines_updateOrdersTx db h [n] [m]
  | updateOrders ns ms =>
    simp only [step, updateOrders, Spec.step]
    split
    · exact ⟨rfl, h⟩
    · exact refines_updateOrdersTx db h ns ms
  | addAccount k a =>
    simp only [step, addAccountTx, Spec.step, abs, ofVis, vis]
    cases storeA a with
    | error e => exact ⟨rfl, h⟩
    | ok a' => exact ⟨rfl, ⟨keys_upsert_nodup h.accN, h.ordN, h.pend, h.idx⟩⟩
  | submitOrder n o =>
    simp only [step, submitOrderTx, Spec.step, abs, ofVis, vis]
    cases lookup n db.orders with
    | some _ => exact ⟨rfl, h⟩
    | none => exact ⟨rfl, ⟨h.accN, keys_upsert_nodup h.ordN, h.pend, h.idx⟩⟩
  | deleteOrder n =>
    simp only [step, deleteOrderTx, Spec.step, abs, ofVis, vis]
    cases lookup n db.orders with
    | none => exact ⟨rfl, h⟩
    | some _ => exact ⟨rfl, ⟨h.accN, keys_erase_nodup h.ordN, h.pend, h.idx⟩⟩
  | stage a =>
    rw [step_stage]
    simp only [Spec.step, abs, vis]
    cases ho : stageOut db.accounts db.orders a with
    | error e => exact ⟨rfl, h⟩
    | ok o => exact ⟨rfl, coh_afterStage h ho⟩
  | complete =>
    rcases h.pend with hn | ⟨st, hs, hp⟩
    · rw [step_complete_noPending hn, abs_of_noPending hn]; exact ⟨rfl, h⟩
    · rw [step_complete_pending hp hs, abs_of_hasPending hp]; exact ⟨rfl, coh_afterComplete h hs⟩
  | reconnect rpc rm =>
    simp only [step]
    rcases h.pend with hn | ⟨st, hs, hp⟩
    · rw [reconnect_fst, hn.snap, abs_of_noPending hn]; exact ⟨rfl, h⟩
    · rw [reconnect_pending hp, abs_of_hasPending hp]
      simp only [Spec.step]
      cases readable (vis db) st && discards st rpc rm with
      | true => exact ⟨rfl, coh_discard h⟩
      | false => exact ⟨abs_of_hasPending hp, h⟩

theorem run_refines (db : DB) (h : Coh db) (ops : List Op) :
    abs (run db ops) = (abs db).run ops ∧ Coh (run db ops) := by
  induction ops generalizing db with
  | nil => exact ⟨rfl, h⟩
  | cons op ops ih =>
    obtain ⟨h1, h2⟩ := step_refines db h op
    simp only [run, Spec.run]
    rw [← h1]
    exact ih _ h2

end Pool.C06
