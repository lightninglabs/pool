import PoolProofs.C07LemmasWeight
/-! The model computes with unbounded integers, Go with `int64` (`btcutil.Amount`, `chainfee.SatPerKWeight`,
`lntypes.WeightUnit`): the range, the domain guard and the bounds `C07_no_int64_overflow` is proved from. -/
namespace Pool.C07
open Pool.Gen.C07

def I64 (x : Int) : Prop := -9223372036854775808 ≤ x ∧ x ≤ 9223372036854775807

/-- the domain guard; 21e14 sat is `maxSatoshi`, the 21 million BTC supply -/
structure InDomain (value rate : Int) (outs : List TxOut) : Prop where
  hvalue : 0 ≤ value ∧ value ≤ 2100000000000000
  hrate : 0 ≤ rate ∧ rate ≤ 1000000000
  houts : ∀ o ∈ outs, -2100000000000000 ≤ o.value ∧ o.value ≤ 2100000000000000
  hcount : outs.length ≤ 1000

theorem sumValues_bound (l : List TxOut)
    (h : ∀ o ∈ l, -2100000000000000 ≤ o.value ∧ o.value ≤ 2100000000000000) :
    -(2100000000000000 * (l.length : Int)) ≤ sumValues l ∧ sumValues l ≤ 2100000000000000 * (l.length : Int) := by
  induction l with
  | nil => simp
  | cons o os ih =>
    have h1 := h o (List.mem_cons_self ..)
    have h2 := ih (fun x hx => h x (List.mem_cons_of_mem _ hx))
    simp only [sumValues_cons, List.length_cons, Int.natCast_add, Int.natCast_one]
    omega

/-- every running total of the output loop (Go: `outputTotal += out.Value`) stays in range -/
theorem prefix_sums_I64 (outs : List TxOut) (k : Nat)
    (h : ∀ o ∈ outs, -2100000000000000 ≤ o.value ∧ o.value ≤ 2100000000000000) (hn : outs.length ≤ 1000) :
    I64 (sumValues (outs.take k)) := by
  have hb := sumValues_bound (outs.take k) (fun o ho => h o (List.mem_of_mem_take ho))
  have hl : ((outs.take k).length : Int) ≤ 1000 := by
    have := List.length_take_le' k outs
    omega
  unfold I64; omega

theorem witnessSize_le {wt w : Nat} (h : witnessSize wt = some w) : w ≤ 1000 := by
  unfold witnessSize at h
  have hall : ∀ e ∈ witnessSizeTable, e.2 ≤ 1000 := by decide
  obtain ⟨e, hf, rfl⟩ := Option.map_eq_some_iff.mp h
  exact hall e (List.mem_of_find?_eq_some hf)

theorem sum_serializeSize_le (os : List TxOut) (h : ∀ o ∈ os, classify o.script ≠ .unsupported) :
    (os.map TxOut.serializeSize).sum ≤ 43 * os.length := by
  induction os with
  | nil => simp
  | cons o os ih =>
    have h1 := serializeSize_classified (h o (List.mem_cons_self ..))
    have h2 := classLen_le (classify o.script)
    have h3 := ih (fun x hx => h x (List.mem_cons_of_mem _ hx))
    simp only [List.map_cons, List.sum_cons, List.length_cons]
    omega

theorem varIntSize_le (n : Nat) : varIntSize n ≤ 9 := by
  unfold varIntSize
  repeat' split
  all_goals omega

theorem fee_bounds {r : Int} {W : Nat} (hr : 0 ≤ r ∧ r ≤ 1000000000) (hW : W ≤ 200000) :
    0 ≤ feeForWeight r W ∧ feeForWeight r W ≤ r * (W : Int) ∧ r * (W : Int) ≤ 1000000000 * 200000 := by
  have hW0 : (0 : Int) ≤ (W : Int) := Int.natCast_nonneg _
  have hprod0 : 0 ≤ r * (W : Int) := Int.mul_nonneg hr.1 hW0
  exact ⟨Int.tdiv_nonneg hprod0 (by omega), Int.tdiv_le_self _ hprod0,
    Int.mul_le_mul hr.2 (by omega) hW0 (by omega)⟩

end Pool.C07
