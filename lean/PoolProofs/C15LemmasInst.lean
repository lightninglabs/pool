import PoolProofs.C15Lemmas
/-! The streams of a ticket (execution, order, recipient, offer, and the ticket itself): what each serialiser
writes, stated against the decoder's record table, and the rows of the table reading it back. -/
namespace Pool.Dec
open Pool.Gen.C15

theorem sigBytes_length (g : Sig) : (sigBytes g).length = 64 := by
  simp [sigBytes, toBE_length]

theorem parseSig_sigBytes (g : Sig) (h : g.wf = true) : parseSig (sigBytes g) = some g := by
  simp only [Sig.wf, Bool.and_eq_true, decide_eq_true_eq] at h
  obtain ⟨⟨⟨h1, h2⟩, h3⟩, h4⟩ := h
  have hn : secpN < 256 ^ 32 := by decide
  have hs : ¬ g.s > secpN / 2 := by omega
  unfold parseSig sigBytes
  rw [if_neg hs]
  rw [List.take_left' (toBE_length 32 _), List.drop_left' (toBE_length 32 _)]
  rw [beNat_toBE 32 g.r (by omega), beNat_toBE 32 g.s (by omega)]
  have : 0 < g.r ∧ g.r < secpN ∧ 0 < g.s ∧ g.s < secpN := ⟨h1, h2, h3, by omega⟩
  simp [this]

theorem sigBytes_ne_zero (g : Sig) (h : g.wf = true) : sigBytes g ≠ List.replicate 64 0 := by
  intro heq
  have hp := parseSig_sigBytes g h
  rw [heq, show parseSig (List.replicate 64 0) = none by decide] at hp
  cases hp

theorem checkSig_sigBytes {σ : Type} (set : Sig → σ → σ) (g : Sig) (h : g.wf = true) (s : σ) :
    checkSig set (sigBytes g) s = .ok (set g s) := by
  unfold checkSig
  rw [if_neg (sigBytes_ne_zero g h), parseSig_sigBytes g h]

/-- a key the decoder accepts and returns unchanged (`SerializeCompressed ∘ ParsePubKey = id`) -/
def keyWF (k : Bytes) : Prop := k.length = 33 ∧ parsePubKey k = some k

theorem checkPubKey_wf {σ : Type} (set : Bytes → σ → σ) (k : Bytes) (h : keyWF k) (s : σ) :
    checkPubKey set k s = .ok (set k s) := by
  unfold checkPubKey; rw [h.2]

theorem key_reads {σ : Type} {L t : Nat} {set : Bytes → σ → σ} {k : Bytes} (h : keyWF k) (hs : 33 ≤ L) :
    Rec.Reads L ⟨t, dChecked 33 (checkPubKey set)⟩ k (set k) :=
  dChecked_reads h.1 hs (checkPubKey_wf set k h)

theorem sig_reads {σ : Type} {L t : Nat} {set : Sig → σ → σ} {g : Sig} (h : g.wf = true) (hs : 64 ≤ L) :
    Rec.Reads L ⟨t, dChecked 64 (checkSig set)⟩ (sigBytes g) (set g) :=
  dChecked_reads (sigBytes_length g) hs (checkSig_sigBytes set g h)

def Execution.wf (e : Execution) : Prop := e.pendingChannelID.length = 32

def encExecution (e : Execution) : Bytes := encAligned executionRecs [some e.pendingChannelID]

theorem serializeExecution_eq (e : Execution) : serializeExecution e = .ok (encExecution e) := by
  simp [serializeExecution, encodeBytes, sortRecords, insertRec, sortedTypes, encodeRecords, encAligned,
    encExecution, executionRecs]

/-- The round trip on the bytes themselves, with their size: `ticket_rt` needs both halves for its `dVarBytes` rows
(likewise `order_rt` … `offer_rt`).  `execution_roundtrip` adds that the serialiser writes these bytes. -/
theorem execution_rt (cfg : Cfg) (e : Execution) (h : e.wf) :
    deserializeExecution cfg (encExecution e) = .ok e ∧ (encExecution e).length ≤ 1000 := by
  have hr : Rows 32 executionRecs [some e.pendingChannelID] _ := .read (dStatic_reads h (by decide)) .nil
  refine ⟨?_, Nat.le_trans hr.length_le (by decide)⟩
  rw [deserializeExecution, encExecution, decodeBytes_rows cfg (by decide) hr (by simp +decide [IncFrom, executionRecs])]
  rfl

theorem execution_roundtrip (cfg : Cfg) (e : Execution) (h : e.wf) :
    ∃ b, serializeExecution e = .ok b ∧ deserializeExecution cfg b = .ok e ∧ b.length ≤ 1000 :=
  ⟨_, serializeExecution_eq e, execution_rt cfg e h⟩

def Order.wf (o : Order) : Prop :=
  o.bidNonce.length = 32 ∧ ∀ g, o.sigOrderDigest = some g → g.wf = true

def orderVals (o : Order) : List (Option Bytes) := [some o.bidNonce, o.sigOrderDigest.map sigBytes]

def encOrder (o : Order) : Bytes := encAligned orderRecs (orderVals o)

theorem serializeOrder_eq (o : Order) : serializeOrder o = .ok (encOrder o) := by
  obtain ⟨n, sg⟩ := o
  cases sg <;>
    simp [serializeOrder, encodeBytes, sortRecords, insertRec, sortedTypes, encodeRecords, encAligned, encOrder,
      orderRecs, orderVals, eSig, bidNonceType, sigOrderDigestType]

theorem order_rt (cfg : Cfg) (o : Order) (h : o.wf) :
    deserializeOrder cfg (encOrder o) = .ok o ∧ (encOrder o).length ≤ 1000 := by
  have hr : Rows 64 orderRecs (orderVals o) _ :=
    .read (dStatic_reads h.1 (by decide)) <| .optMap _ (fun g hg => sig_reads (h.2 g hg) (Nat.le_refl _)) .nil
  refine ⟨?_, Nat.le_trans hr.length_le (by decide)⟩
  rw [deserializeOrder, encOrder, decodeBytes_rows cfg (by decide) hr (by simp +decide [IncFrom, orderRecs])]
  obtain ⟨n, sg⟩ := o
  cases sg <;> rfl

theorem order_roundtrip (cfg : Cfg) (o : Order) (h : o.wf) :
    ∃ b, serializeOrder o = .ok b ∧ deserializeOrder cfg b = .ok o ∧ b.length ≤ 1000 :=
  ⟨_, serializeOrder_eq o, order_rt cfg o h⟩

def Recipient.wf (r : Recipient) : Prop :=
  r.multiSigKeyIndex < 2 ^ 32 ∧ (∀ k, r.nodePubKey = some k → keyWF k) ∧ (∀ k, r.multiSigPubKey = some k → keyWF k)

def recipientVals (r : Recipient) : List (Option Bytes) :=
  [r.nodePubKey, r.multiSigPubKey, some (toBE 4 r.multiSigKeyIndex)]

def encRecipient (r : Recipient) : Bytes := encAligned recipientRecs (recipientVals r)

theorem serializeRecipient_eq (r : Recipient) : serializeRecipient r = .ok (encRecipient r) := by
  obtain ⟨n, m, i⟩ := r
  cases n <;> cases m <;>
    simp [serializeRecipient, encodeBytes, sortRecords, insertRec, sortedTypes, encodeRecords, encAligned,
      encRecipient, recipientRecs, recipientVals, optRec, nodePubKeyType, multiSigPubKeyType, multiSigKeyIndexType]

theorem recipient_rt (cfg : Cfg) (r : Recipient) (h : r.wf) :
    deserializeRecipient cfg (encRecipient r) = .ok r ∧ (encRecipient r).length ≤ 1000 := by
  have hr : Rows 33 recipientRecs (recipientVals r) _ :=
    .opt _ (fun k hk => key_reads (h.2.1 k hk) (Nat.le_refl _)) <|
    .opt _ (fun k hk => key_reads (h.2.2 k hk) (Nat.le_refl _)) <|
    .read (dStatic_reads (toBE_length 4 _) (by decide)) .nil
  refine ⟨?_, Nat.le_trans hr.length_le (by decide)⟩
  rw [deserializeRecipient, encRecipient, decodeBytes_rows cfg (by decide) hr (by simp +decide [IncFrom, recipientRecs])]
  simp only [beNat_toBE 4 _ h.1]
  obtain ⟨n, m, i⟩ := r
  cases n <;> cases m <;> rfl

theorem recipient_roundtrip (cfg : Cfg) (r : Recipient) (h : r.wf) :
    ∃ b, serializeRecipient r = .ok b ∧ deserializeRecipient cfg b = .ok r ∧ b.length ≤ 1000 :=
  ⟨_, serializeRecipient_eq r, recipient_rt cfg r h⟩

def Offer.wf (o : Offer) : Prop :=
  o.capacity < 2 ^ 64 ∧ o.pushAmt < 2 ^ 64 ∧ o.leaseDuration < 2 ^ 32 ∧
  (∀ k, o.signPubKey = some k → keyWF k) ∧ (∀ g, o.sigOfferDigest = some g → g.wf = true)

def flagVal (b : Bool) : Option Bytes := if b then some [1] else none

def offerVals (o : Offer) : List (Option Bytes) :=
  [some (toBE 8 o.capacity), some (toBE 8 o.pushAmt), some (toBE 4 o.leaseDuration), o.signPubKey,
   o.sigOfferDigest.map sigBytes, some [if o.auto then 1 else 0], flagVal o.unannounced, flagVal o.zeroConf]

def encOffer (o : Offer) : Bytes := encAligned offerRecs (offerVals o)

theorem serializeOffer_eq (o : Offer) : serializeOffer o = .ok (encOffer o) := by
  -- `serializeOffer` appends the flags before the key and the signature; `sortRecords`, evaluated on each presence
  -- pattern, puts the records into the order of `offerRecs`
  obtain ⟨c, p, l, k, g, a, u, z⟩ := o
  cases k <;> cases g <;> cases u <;> cases z <;>
    simp [serializeOffer, encodeBytes, sortRecords, insertRec, sortedTypes, encodeRecords, encAligned, encOffer,
      offerRecs, offerVals, flagVal, optRec, eSig, capacityType, pushAmtType, leaseDurationType,
      signPubKeyType, sigOfferDigestType, offerAutoType, unannouncedChannelType, zeroConfChannelType]

theorem flagVal_length {b : Bool} {v : Bytes} (h : flagVal b = some v) : v.length = 1 := by
  cases b
  · cases h
  · cases h; rfl

theorem offer_rt (cfg : Cfg) (o : Offer) (h : o.wf) :
    deserializeOffer cfg (encOffer o) = .ok o ∧ (encOffer o).length ≤ 1000 := by
  obtain ⟨hc, hp, hl, hk, hg⟩ := h
  have hr : Rows 64 offerRecs (offerVals o) _ :=
    .read (dStatic_reads (toBE_length 8 _) (by decide)) <|
    .read (dStatic_reads (toBE_length 8 _) (by decide)) <|
    .read (dStatic_reads (toBE_length 4 _) (by decide)) <|
    .opt _ (fun k hk' => key_reads (hk k hk') (by decide)) <|
    .optMap _ (fun g hg' => sig_reads (hg g hg') (Nat.le_refl _)) <|
    .read (dStatic_reads rfl (by decide)) <|
    .opt _ (fun _ hv => dStatic_reads (flagVal_length hv) (by decide)) <|
    .opt _ (fun _ hv => dStatic_reads (flagVal_length hv) (by decide)) .nil
  refine ⟨?_, Nat.le_trans hr.length_le (by decide)⟩
  rw [deserializeOffer, encOffer, decodeBytes_rows cfg (by decide) hr (by simp +decide [IncFrom, offerRecs])]
  simp only [beNat_toBE 8 _ hc, beNat_toBE 8 _ hp, beNat_toBE 4 _ hl]
  -- whichever optional records and flags are present, the composed setters rebuild `o` field by field
  obtain ⟨c, p, l, k, g, a, u, z⟩ := o
  cases k <;> cases g <;> cases a <;> cases u <;> cases z <;> rfl

theorem offer_roundtrip (cfg : Cfg) (o : Offer) (h : o.wf) :
    ∃ b, serializeOffer o = .ok b ∧ deserializeOffer cfg b = .ok o ∧ b.length ≤ 1000 :=
  ⟨_, serializeOffer_eq o, offer_rt cfg o h⟩

/-- well-formed ticket: fixed-size fields have their size, numbers fit their wire width, keys are accepted
by the key parser unchanged, signature objects are non-zero with low S -/
def Ticket.wf (t : Ticket) : Prop :=
  t.id.length = 8 ∧ t.version < 256 ∧ t.state < 256 ∧ t.offer.wf ∧
  (∀ r, t.recipient = some r → r.wf) ∧ (∀ o, t.order = some o → o.wf) ∧ (∀ e, t.execution = some e → e.wf)

def ticketVals (t : Ticket) : List (Option Bytes) :=
  [some t.id, some [UInt8.ofNat t.version], some [UInt8.ofNat t.state], some (encOffer t.offer),
   t.recipient.map encRecipient, t.order.map encOrder, t.execution.map encExecution]

theorem serializeTicket_eq (cfg : Cfg) (t : Ticket) :
    serializeTicket t = .ok (encAligned (ticketRecs cfg) (ticketVals t)) := by
  obtain ⟨id, ver, st, off, rcp, ord, exe⟩ := t
  cases rcp <;> cases ord <;> cases exe <;>
    simp [serializeTicket, serializeOffer_eq, serializeRecipient_eq, serializeOrder_eq, serializeExecution_eq,
      sortedTypes, encodeRecords, encAligned, ticketRecs, ticketVals, idType, versionType, stateType,
      offerType, recipientType, orderType, executionType]

theorem beNat_byte (n : Nat) (h : n < 256) : beNat [UInt8.ofNat n] = n := by
  rw [beNat_single, UInt8.toNat_ofNat', Nat.mod_eq_of_lt h]

/-- each nested stream is at most 1000 bytes (a round bound: the longest, the offer, has 8 records of at most 18 + 64),
the whole at most 7 records of 18 + 1000 bytes -/
theorem ticket_rt (cfg : Cfg) (hm : 1000 ≤ cfg.maxAlloc) (t : Ticket) (h : t.wf) :
    deserializeTicket cfg (encAligned (ticketRecs cfg) (ticketVals t)) = .ok t ∧
    (encAligned (ticketRecs cfg) (ticketVals t)).length ≤ 7126 := by
  obtain ⟨hid, hver, hst, hoff, hr, ho, he⟩ := h
  have hrows : Rows 1000 (ticketRecs cfg) (ticketVals t) _ :=
    .read (dStatic_reads hid (by decide)) <|
    .read (dStatic_reads rfl (by decide)) <|
    .read (dStatic_reads rfl (by decide)) <|
    .read (dVarBytes_reads (offer_rt cfg _ hoff).2 hm) <|
    .optMap _ (fun r h => dVarBytes_reads (recipient_rt cfg r (hr r h)).2 hm) <|
    .optMap _ (fun o h => dVarBytes_reads (order_rt cfg o (ho o h)).2 hm) <|
    .optMap _ (fun e h => dVarBytes_reads (execution_rt cfg e (he e h)).2 hm) .nil
  refine ⟨?_, Nat.le_trans hrows.length_le (by simp [ticketRecs])⟩
  rw [deserializeTicket, decodeStream_rows (by decide) hrows (by simp +decide [IncFrom, ticketRecs])]
  obtain ⟨id, ver, st, off, rcp, ord, exe⟩ := t
  have hO := (offer_rt cfg off hoff).1
  have hR := fun r h => (recipient_rt cfg r (hr r h)).1
  have hOr := fun o h => (order_rt cfg o (ho o h)).1
  have hE := fun e h => (execution_rt cfg e (he e h)).1
  -- on each presence pattern `typesAligned` lists the types read: `deserializeTicket` looks at exactly the parts present
  cases rcp <;> cases ord <;> cases exe <;>
    simp +decide [typesAligned, ticketRecs, ticketVals, optPart, beNat_byte ver hver, beNat_byte st hst, hO, hR, hOr, hE]

theorem ticket_roundtrip (cfg : Cfg) (hm : 1000 ≤ cfg.maxAlloc) (t : Ticket) (h : t.wf) :
    serializeTicket t = .ok (encAligned (ticketRecs cfg) (ticketVals t)) ∧
    deserializeTicket cfg (encAligned (ticketRecs cfg) (ticketVals t)) = .ok t :=
  ⟨serializeTicket_eq cfg t, (ticket_rt cfg hm t h).1⟩

end Pool.Dec
