import PoolModel.C04

/-! Script numbers for C04.  `scriptNumBytes n` is the magnitude of `n` in little-endian bytes, followed by a zero
byte when the top one has its high bit set (`scriptNumBytes_spec`); decoding, truthiness and length follow from
that form for every `n` the Go buffer holds (`n < 256 ^ 9`).  `NumOK` is what the interpreter lemmas take from here. -/
namespace Pool.C04

theorem decodeLE_append (a b : Bytes) : decodeLE (a ++ b) = decodeLE a + 256 ^ a.length * decodeLE b := by
  induction a with
  | nil => simp [decodeLE]
  | cons x a ih =>
    simp only [List.cons_append, decodeLE, ih, List.length_cons, Nat.pow_succ]
    rw [Nat.mul_add, Nat.mul_comm (256 ^ a.length) 256, Nat.mul_assoc]
    omega

theorem decodeLE_lt (l : Bytes) : decodeLE l < 256 ^ l.length := by
  induction l with
  | nil => simp [decodeLE]
  | cons x l ih =>
    have := x.toNat_lt
    simp only [decodeLE, List.length_cons, Nat.pow_succ]
    omega

theorem decodeLE_concat_bounds (init : Bytes) (b : UInt8) :
    256 ^ init.length * b.toNat ≤ decodeLE (init ++ [b]) ∧
      decodeLE (init ++ [b]) < 256 ^ init.length * (b.toNat + 1) := by
  have := decodeLE_lt init
  rw [decodeLE_append, Nat.mul_add]
  simp only [decodeLE, Nat.mul_zero, Nat.add_zero]
  omega

theorem digits_le_iff (x m k : Nat) (h1 : 256 ^ m ≤ x) (h2 : x < 256 ^ (m + 1)) : m + 1 ≤ k ↔ x < 256 ^ k :=
  ⟨fun h => Nat.lt_of_lt_of_le h2 (Nat.pow_le_pow_right (by decide) h),
   fun h => (Nat.pow_lt_pow_iff_right (by decide)).mp (Nat.lt_of_le_of_lt h1 h)⟩

theorem leBytesAux_spec (f n : Nat) (h0 : n ≠ 0) (h : n < 256 ^ f) :
    ∃ init b, leBytesAux f n = init ++ [b] ∧ b.toNat ≠ 0 ∧ decodeLE (init ++ [b]) = n := by
  induction f generalizing n with
  | zero => omega
  | succ f ih =>
    rw [Nat.pow_succ] at h
    rw [leBytesAux, if_neg h0]
    by_cases hq : n / 256 = 0
    · refine ⟨[], UInt8.ofNat (n % 256), ?_, ?_, ?_⟩
      · cases f <;> simp [hq, leBytesAux]
      · rw [UInt8.toNat_ofNat']; omega
      · simp [decodeLE]; omega
    · obtain ⟨init, b, e, hb, hd⟩ := ih (n / 256) hq (by omega)
      refine ⟨UInt8.ofNat (n % 256) :: init, b, by rw [e]; rfl, hb, ?_⟩
      simp only [List.cons_append, decodeLE, hd, UInt8.toNat_ofNat']
      omega

theorem scriptNumBytes_spec (n : Nat) (h0 : n ≠ 0) (h : n < 256 ^ 9) :
    ∃ init b, b.toNat ≠ 0 ∧ decodeLE (init ++ [b]) = n ∧
      (b.toNat < 128 ∧ scriptNumBytes n = init ++ [b] ∨ 128 ≤ b.toNat ∧ scriptNumBytes n = init ++ [b, 0]) := by
  obtain ⟨init, b, e, hb, hd⟩ := leBytesAux_spec 9 n h0 h
  refine ⟨init, b, hb, hd, ?_⟩
  simp only [scriptNumBytes, if_neg h0, e, List.getLast?_append, List.getLast?_singleton, Option.some_or]
  by_cases hs : b.toNat < 128
  · exact .inl ⟨hs, by simp; omega⟩
  · exact .inr ⟨by omega, by simp; omega⟩

theorem scriptNumBytes_of_lt_128 (n : Nat) (h0 : n ≠ 0) (h : n < 128) : scriptNumBytes n = [UInt8.ofNat n] := by
  have hq : n / 256 = 0 := by omega
  have hm : n % 256 = n := by omega
  simp [scriptNumBytes, leBytesAux, h0, hq, hm, h]

theorem makeScriptNum_nonneg (v : Bytes) (last : UInt8) (L : Nat) (hl : (v ++ [last]).length ≤ L)
    (hm : checkMinimal (v ++ [last]) = true) (hs : last.toNat < 128) :
    makeScriptNum (v ++ [last]) true L = .ok (decodeLE (v ++ [last]) : Int) := by
  have h1 : ¬ (v ++ [last]).length > L := by omega
  have h2 : ¬ last.toNat ≥ 128 := by omega
  simp only [makeScriptNum, h1, hm, List.reverse_append, List.reverse_singleton, List.singleton_append, h2]
  simp

theorem decodeLE_scriptNumBytes (n : Nat) (h : n < 256 ^ 9) : decodeLE (scriptNumBytes n) = n := by
  by_cases h0 : n = 0
  · simp [h0, scriptNumBytes, decodeLE]
  obtain ⟨init, b, -, hd, ⟨-, e⟩ | ⟨-, e⟩⟩ := scriptNumBytes_spec n h0 h
  · rw [e, hd]
  · rw [e, show init ++ [b, 0] = (init ++ [b]) ++ [0] by simp, decodeLE_append, hd]; simp [decodeLE]

theorem scriptNumBytes_inj (n m : Nat) (hn : n < 256 ^ 9) (hm : m < 256 ^ 9)
    (h : scriptNumBytes n = scriptNumBytes m) : n = m := by
  rw [← decodeLE_scriptNumBytes n hn, h, decodeLE_scriptNumBytes m hm]

theorem makeScriptNum_scriptNumBytes (n L : Nat) (h : n < 256 ^ 9) (hl : (scriptNumBytes n).length ≤ L) :
    makeScriptNum (scriptNumBytes n) true L = .ok (n : Int) := by
  by_cases h0 : n = 0
  · simp [h0, scriptNumBytes, makeScriptNum, checkMinimal]
  have hd := decodeLE_scriptNumBytes n h
  obtain ⟨init, b, hb, -, ⟨hs, e⟩ | ⟨hs, e⟩⟩ := scriptNumBytes_spec n h0 h
  · rw [e] at hl hd ⊢
    rw [← hd]
    refine makeScriptNum_nonneg init b L hl ?_ hs
    have : ¬ b.toNat % 128 = 0 := by omega
    simp [checkMinimal, this]
  · -- the padding byte is minimal because the byte before it has its high bit set
    rw [e, show init ++ [b, 0] = (init ++ [b]) ++ [0] by simp] at hl hd ⊢
    rw [← hd]
    refine makeScriptNum_nonneg _ 0 L hl ?_ (by decide)
    simp [checkMinimal, hs]

theorem asBool_append (init s : Bytes) (b : UInt8) (hb : b.toNat ≠ 0) (hs : s ≠ [] ∨ b.toNat ≠ 0x80) :
    asBool (init ++ b :: s) = true := by
  induction init with
  | nil =>
    cases s with
    | nil => simpa [asBool, hb] using hs
    | cons c s => simp [asBool, hb]
  | cons a init ih =>
    cases h : init ++ b :: s with
    | nil => simp at h
    | cons c t => rw [h] at ih; simp [h, asBool, ih]

theorem asBool_scriptNumBytes (n : Nat) (h : n < 256 ^ 9) : asBool (scriptNumBytes n) = decide (n ≠ 0) := by
  by_cases h0 : n = 0
  · simp [h0, scriptNumBytes, asBool]
  obtain ⟨init, b, hb, -, ⟨hs, e⟩ | ⟨hs, e⟩⟩ := scriptNumBytes_spec n h0 h
  · simp [e, h0, asBool_append init [] b hb (.inr (by omega))]
  · simp [e, h0, asBool_append init [0] b hb (.inl (by simp))]

/-- minimal encoding: zero is the empty string -/
theorem scriptNumBytes_ne_zero_byte (n : Nat) (h : n < 256 ^ 9) : scriptNumBytes n ≠ [0] := by
  intro hz
  have hb := asBool_scriptNumBytes n h
  rw [hz] at hb
  have h0 : n = 0 := by simpa [asBool] using hb
  rw [h0] at hz
  exact absurd hz (by decide)

-- `2 * n`: the top bit of the last byte is the sign, so `k` bytes hold the magnitudes below `256 ^ k / 2`
theorem scriptNumBytes_length_le_iff (n k : Nat) (h : n < 256 ^ 9) :
    (scriptNumBytes n).length ≤ k ↔ 2 * n < 256 ^ k := by
  by_cases h0 : n = 0
  · simp [h0, scriptNumBytes, Nat.pow_pos]
  obtain ⟨init, b, hb, hd, ⟨hs, e⟩ | ⟨hs, e⟩⟩ := scriptNumBytes_spec n h0 h
  all_goals
    obtain ⟨lo, hi⟩ := decodeLE_concat_bounds init b
    rw [hd] at lo hi
    rw [e]
  · -- 256 ^ len ≤ 2 * n < 256 ^ (len + 1), from 1 ≤ b < 128
    have := Nat.mul_le_mul_left (256 ^ init.length) (show 1 ≤ b.toNat by omega)
    have := Nat.mul_le_mul_left (256 ^ init.length) (show b.toNat + 1 ≤ 128 by omega)
    simpa using digits_le_iff (2 * n) init.length k (by omega) (by rw [Nat.pow_succ]; omega)
  · -- 256 ^ (len + 1) ≤ 2 * n < 256 ^ (len + 2), from 128 ≤ b < 256
    have := Nat.mul_le_mul_left (256 ^ init.length) hs
    have := Nat.mul_le_mul_left (256 ^ init.length) (show b.toNat + 1 ≤ 256 by have := b.toNat_lt; omega)
    simpa using digits_le_iff (2 * n) (init.length + 1) k (by rw [Nat.pow_succ]; omega)
      (by rw [Nat.pow_succ, Nat.pow_succ]; omega)

theorem scriptNumBytes_length_eq (n k : Nat) (lo : 256 ^ k ≤ 2 * n) (hi : 2 * n < 256 ^ (k + 1))
    (h : n < 256 ^ 9) : (scriptNumBytes n).length = k + 1 := by
  have h1 := scriptNumBytes_length_le_iff n k h
  have h2 := scriptNumBytes_length_le_iff n (k + 1) h
  omega

structure NumOK (N : Bytes) (e : Nat) : Prop where
  dec : makeScriptNum N true cltvMaxScriptNumLen = .ok (e : Int)
  truthy : asBool N = decide (e ≠ 0)

theorem NumOK.len {N : Bytes} {e : Nat} (h : NumOK N e) : N.length ≤ 5 :=
  Nat.le_of_not_lt fun hl => by simpa [makeScriptNum, cltvMaxScriptNumLen, hl] using h.dec

theorem numOK_scriptNum {n : Nat} (h : n < 2 ^ 32) : NumOK (scriptNumBytes n) n := by
  have h9 : n < 256 ^ 9 := by omega
  exact ⟨makeScriptNum_scriptNumBytes n _ h9 ((scriptNumBytes_length_le_iff n 5 h9).mpr (by omega)),
    asBool_scriptNumBytes n h9⟩

end Pool.C04
