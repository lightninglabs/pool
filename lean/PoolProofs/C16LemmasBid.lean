import PoolProofs.C16LemmasTrans
/-! C16, at most one bid: the only effect that hands a bid to the auctioneer is a successful submit, and the order
store's nonce uniqueness lets it succeed once. Holds for either finalization rule, from any state, with or without
local tickets: no other invariant is needed. -/
namespace Pool.C16

/-- a successful submit among the effects `es` happens only with no bid stored (`b` is `bidStored`) and is then the
only effect -/
def BidSafe (b : Bool) (es : List Eff) : Prop :=
  ∀ t, Eff.submit t .ok ∈ es → b = false ∧ es = [Eff.submit t .ok]

def BidInv (s : Sys) : Prop := s.bids = if s.bidStored then 1 else 0

theorem provBody_bidsafe {b : Bool} {env : Env} (hs : env.submit = driverSubmit b)
    {recv prov : Option Ticket} {i : Nat} : BidSafe b (provBody env recv prov i).effs := by
  intro t ht
  match i with
  | 0 => cases prov <;> simp [provBody] at ht; split at ht <;> simp at ht
  | 1 => cases recv <;> simp [provBody] at ht; split at ht <;> simp at ht
  | 2 => simp [provBody] at ht
  | 3 =>
    cases prov with
    | none => simp [provBody] at ht
    | some p =>
      simp only [provBody, hs] at ht
      unfold driverSubmit at ht
      cases hsg : signForOrder p with
      | none => simp [hsg] at ht
      | some p' =>
        cases b <;> simp [hsg] at ht
        subst ht; simp [provBody, hs, driverSubmit, hsg]
  | 4 | 5 =>
    cases prov <;> simp [provBody] at ht
    split at ht
    · split at ht <;> simp at ht
    · simp at ht
  | n + 6 => cases recv <;> simp [provBody] at ht

theorem recpBody_nosubmit {env : Env} {recv prov : Option Ticket} {i : Nat} {t : Ticket} {r : SubmitRes} :
    Eff.submit t r ∉ (recpBody env recv prov i).effs := by
  intro ht
  unfold recpBody at ht
  repeat' split at ht
  all_goals simp at ht

theorem procStep_bidsafe (s : Sys) (prov : Bool) (x : Party) (pkt : Ticket) :
    BidSafe s.bidStored (procStep s prov x pkt).2 := by
  cases prov
  · rw [procStep_R]
    unfold stepRecipient
    split
    · exact nofun
    · exact fun t ht => absurd ht recpBody_nosubmit
  · rw [procStep_P]
    unfold stepProvider
    split
    · exact nofun
    · exact provBody_bidsafe rfl

theorem finStep_bidsafe (b ret prov : Bool) (x : Party) (st : Nat) (otherSide : Bool) :
    BidSafe b (finStep ret prov x st otherSide).2 := by
  intro t ht
  unfold finStep at ht
  split at ht
  · simp at ht
  · simp at ht; split at ht <;> simp at ht

theorem BidSafe_take {b : Bool} {es : List Eff} (k : Nat) (h : BidSafe b es) : BidSafe b (es.take k) := by
  intro t ht
  obtain ⟨hb, rfl⟩ := h t (List.mem_of_mem_take ht)
  refine ⟨hb, ?_⟩
  cases k with
  | zero => simp at ht
  | succ n => simp

theorem BidInv_congr {s s' : Sys} (hi : BidInv s) (h : s'.bids = s.bids ∧ s'.bidStored = s.bidStored) :
    BidInv s' := by
  unfold BidInv at hi ⊢; rw [h.1, h.2]; exact hi

theorem applyEff_bids (prov : Bool) (s : Sys) (e : Eff) (h : ∀ t, e ≠ .submit t .ok) :
    (applyEff prov s e).bids = s.bids ∧ (applyEff prov s e).bidStored = s.bidStored := by
  cases e with
  | send tp t ok => cases tp <;> cases ok <;> simp [applyEff]
  | update t ok => cases ok <;> cases prov <;> simp [applyEff, setParty, getParty]
  | submit t r => cases r <;> simp [applyEff] <;> exact absurd rfl (h t)
  | expect t ok => cases ok <;> simp [applyEff]
  | spawnFin => cases prov <;> simp [applyEff, setParty, getParty]
  | _ => simp [applyEff]

theorem applyEffs_bids_nosubmit (prov : Bool) (es : List Eff) :
    ∀ s : Sys, (∀ t, Eff.submit t .ok ∉ es) →
      (applyEffs prov s es).bids = s.bids ∧ (applyEffs prov s es).bidStored = s.bidStored := by
  induction es with
  | nil => exact fun s _ => ⟨rfl, rfl⟩
  | cons e rest ih =>
    intro s h
    have e1 := applyEff_bids prov s e fun t he => h t (by simp [he])
    have := ih (applyEff prov s e) fun t hm => h t (List.mem_cons_of_mem _ hm)
    exact ⟨this.1.trans e1.1, this.2.trans e1.2⟩

theorem applyEffs_BidInv (prov : Bool) {s : Sys} {es : List Eff} (hi : BidInv s)
    (hs : BidSafe s.bidStored es) : BidInv (applyEffs prov s es) := by
  by_cases hex : ∃ t, Eff.submit t .ok ∈ es
  · obtain ⟨t, ht⟩ := hex
    obtain ⟨hb, rfl⟩ := hs t ht
    unfold BidInv at hi ⊢
    simp [applyEffs, applyEff, hb] at hi ⊢
    exact hi
  · have := applyEffs_bids_nosubmit prov es s fun t ht => hex ⟨t, ht⟩
    exact BidInv_congr hi this

theorem setParty_bids (s : Sys) (prov : Bool) (x : Party) :
    (setParty s prov x).bids = s.bids ∧ (setParty s prov x).bidStored = s.bidStored := by
  cases prov <;> exact ⟨rfl, rfl⟩

theorem restart_bids (s : Sys) (prov : Bool) :
    (restart prov s).bids = s.bids ∧ (restart prov s).bidStored = s.bidStored := by
  cases prov <;> exact ⟨rfl, rfl⟩

theorem BidInv_effs {s : Sys} (prov : Bool) (x : Party) {es : List Eff} (hi : BidInv s)
    (hs : BidSafe s.bidStored es) : BidInv (applyEffs prov (setParty s prov x) es) :=
  have hb := setParty_bids s prov x
  applyEffs_BidInv prov (BidInv_congr hi hb) (hb.2 ▸ hs)

theorem finRun_BidInv {s : Sys} {ret prov : Bool} {st : Nat} {otherSide : Bool} (hi : BidInv s) :
    BidInv (finRun ret s prov st otherSide) := by
  have hs := finStep_bidsafe s.bidStored ret prov (getParty s prov) st otherSide
  unfold finRun
  split <;> rename_i heq <;> rw [heq] at hs
  · exact hi
  · exact BidInv_effs prov _ hi hs

theorem applyG_BidInv (ret : Bool) (s s' : Sys) (a : Act) (hi : BidInv s) (ha : applyG ret s a = some s') :
    BidInv s' := by
  have set : ∀ {s1 : Sys} {prov x}, BidInv s1 → BidInv (setParty s1 prov x) := fun h =>
    BidInv_congr h (setParty_bids ..)
  cases a with
  | deliver tp i => obtain ⟨m, -, -, rfl⟩ := applyG_deliver.1 ha; exact set hi
  | proc prov =>
    obtain ⟨-, pkt, ox, es, -, hps, rfl⟩ := applyG_proc.1 ha
    have hs := procStep_bidsafe s prov (takePkt (getParty s prov)) pkt
    rw [hps] at hs
    cases ox
    · exact BidInv_congr (applyEffs_BidInv prov hi hs) ⟨rfl, rfl⟩
    · exact BidInv_effs prov _ hi hs
  | procCrash prov k =>
    obtain ⟨-, pkt, ox, es, -, hps, -, rfl⟩ := applyG_procCrash.1 ha
    have hs := procStep_bidsafe s prov (takePkt (getParty s prov)) pkt
    rw [hps] at hs
    exact BidInv_congr (applyEffs_BidInv prov hi (BidSafe_take k hs)) (restart_bids _ _)
  | fin prov => obtain ⟨-, rfl⟩ := applyG_fin.1 ha; exact finRun_BidInv hi
  | finalize prov st => obtain ⟨-, rfl⟩ := applyG_finalize.1 ha; exact finRun_BidInv hi
  | stop prov => obtain rfl := applyG_stop.1 ha; exact set hi
  | quit prov => obtain ⟨-, rfl⟩ := applyG_quit.1 ha; exact set hi
  | restart prov => obtain rfl := applyG_restart.1 ha; exact BidInv_congr hi (restart_bids _ _)
  | recvErr prov => obtain ⟨-, rfl⟩ := applyG_recvErr.1 ha; exact hi
  | cancelRPC prov =>
    obtain ⟨-, ⟨-, -, rfl⟩ | ⟨s1, hs1, rfl⟩⟩ := applyG_cancelRPC.1 ha
    · exact hi
    · refine set ?_
      rcases hs1 with ⟨-, rfl⟩ | ⟨-, -, rfl⟩
      · exact hi
      · exact finRun_BidInv hi
  | completeRPC prov =>
    obtain ⟨-, ⟨-, rfl⟩ | ⟨-, rfl⟩⟩ := applyG_completeRPC.1 ha
    · exact finRun_BidInv hi
    · exact set hi

theorem runG_BidInv (ret : Bool) (as : List Act) : ∀ s s', BidInv s → runG ret s as = some s' → BidInv s' :=
  runG_invariant (applyG_BidInv ret) as

end Pool.C16
