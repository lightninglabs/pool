import PoolModel.C16
/-! C16, one call of a step function: the regenerated tables, the clause selection in closed form, what the driver
functions accept, every outcome of a call with the real driver (`POut`/`ROut`). -/
namespace Pool.C16
open Pool.Gen.C16

/-! (R) The `_match` theorems: the regenerated facts are the ones the model's hand-written parts were written against. -/

theorem states_match : sidecarStates =
    [("StateCreated", sCreated), ("StateOffered", sOffered), ("StateRegistered", sRegistered),
     ("StateOrdered", sOrdered), ("StateExpectingChannel", sExpecting), ("StateCompleted", sCompleted),
     ("StateCanceled", sCanceled)] := rfl

theorem terminal_match : terminalStates = [sCompleted, sCanceled] := by decide

/-- The clauses of `stateStepProvider` as a SET of signatures: the state equalities that guard a clause (as a set), the
state of the packet it returns, its driver/mailbox calls in order, the tickets it returns, and for a `fallthrough`
clause the clause it falls into. The ORDER of the clauses is not fixed here: `prov_select` covers the selection (first
match in source order) and holds for every order of mutually exclusive clauses. -/
theorem provider_clauses_match : providerCasesSet = [
      "default=false;guard=(0, 0)&(2, 1);result=some 1;calls=MailBox.SendSidecarPkt;recv=pkt.ProviderTicket;prov=pkt.ReceiverTicket",
      "default=false;guard=(0, 1)&(1, 2);result=some 2;calls=Driver.UpdateSidecar;recv=pkt.ReceiverTicket;prov=pkt.ReceiverTicket",
      "default=false;guard=(0, 2);result=some 3;calls=Driver.SubmitSidecarOrder;recv=a.cfg.Driver.SubmitSidecarOrder()#0;prov=a.cfg.Driver.SubmitSidecarOrder()#0",
      "default=false;guard=(0, 3);result=some 4;calls=MailBox.SendSidecarPkt+Driver.UpdateSidecar;recv=&*pkt.ProviderTicket;prov=&*pkt.ProviderTicket",
      "default=false;guard=(0, 4)&(1, 2);falls-into;result=some 4;calls=MailBox.SendSidecarPkt+Driver.UpdateSidecar;recv=&*pkt.ProviderTicket;prov=&*pkt.ProviderTicket",
      "default=false;guard=(1, 6);result=some 6;calls=go a.TicketExecuted;recv=pkt.ReceiverTicket;prov=pkt.ProviderTicket",
      "default=true;guard=;result=none;calls=;recv=;prov="] := rfl

theorem recipient_clauses_match : recipientCasesSet = [
      "default=false;guard=(0, 2)&(1, 2)&(2, 2);result=some 2;calls=MailBox.SendSidecarPkt;recv=pkt.ReceiverTicket;prov=pkt.ReceiverTicket",
      "default=false;guard=(0, 2)&(2, 3);result=some 4;calls=Driver.ValidateOrderedTicket+Driver.ExpectChannel;recv=pkt.ProviderTicket;prov=pkt.ProviderTicket",
      "default=false;guard=(0, 4);result=some 4;calls=Driver.ExpectChannel;recv=pkt.ReceiverTicket;prov=pkt.ProviderTicket",
      "default=false;guard=(2, 1);falls-into;result=some 2;calls=MailBox.SendSidecarPkt;recv=pkt.ReceiverTicket;prov=pkt.ReceiverTicket",
      "default=false;guard=(2, 6);result=some 6;calls=go a.TicketExecuted;recv=pkt.ReceiverTicket;prov=pkt.ProviderTicket",
      "default=true;guard=;result=none;calls=;recv=;prov="] := rfl

/-- The two run loops and `SidecarAcceptor.Start`'s resume rules as regenerated from the source, in the extractor's
canonical form (operands and guard sets sorted, once-assigned locals and parameters replaced by their definition /
position `$n`, the resume rule evaluated over the state enum). `finStep` (persist FIRST, then notify or delete the
mailbox, then return: the repaired rule), `procStep` (when the stateUpdateLoop stops), `restartParty` and the action
`recvErr` (a reader's retry only re-creates the mailbox and never ends the reader) were written against exactly these. -/
theorem loops_match :
    providerFinReturns = true ∧ receiverFinReturns = true ∧ ticketExecutedStops = true ∧
    providerFinFirstCall = "Driver.UpdateSidecar" ∧ receiverFinFirstCall = "Driver.UpdateSidecar" ∧
    providerFinOtherCalls = ["MailBox.DelAcctMailbox", "MailBox.SendSidecarPkt"] ∧
    receiverFinOtherCalls = ["MailBox.DelSidecarMailbox", "MailBox.SendSidecarPkt"] ∧
    providerFinNotifyCond = ["!<-a.ticketFinalized.otherSide", "<-a.ticketFinalized.state == sidecar.StateCanceled",
      "a.CurrentState() >= sidecar.StateRegistered"] ∧
    receiverFinNotifyCond = ["!<-a.ticketFinalized.otherSide", "<-a.ticketFinalized.state == sidecar.StateCanceled"] ∧
    providerLoopBreaks =
      ["a.stateStepProvider()#0.CurrentState == sidecar.State(atomic.LoadUint32(&a.currentState))",
       "a.stateStepProvider()#0.CurrentState == sidecar.StateCanceled",
       "a.stateStepProvider()#0.CurrentState == sidecar.StateExpectingChannel"] ∧
    receiverLoopBreaks = [] ∧
    providerStartGuard = ["$2.CurrentState == sidecar.StateCreated"] ∧
    providerStartPacket = "$2.ReceiverTicket" ∧
    receiverStartGuard = [] ∧ receiverStartPacket = "$2.ProviderTicket" ∧
    providerReaderRetryCalls = ["MailBox.InitAcctMailbox"] ∧ providerReaderRetryCanEnd = false ∧
    receiverReaderRetryCalls = ["MailBox.InitSidecarMailbox"] ∧ receiverReaderRetryCanEnd = false ∧
    resumeRemap = [(sOffered, sCreated)] ∧ recipientResumeRemap = [] ∧
    resumeCond = ["!$ticket.State.IsTerminal()", "$ticket.Offer.Auto"] ∧
    resumePackets = ["provider=false;ProviderTicket=$ticket,ReceiverTicket=$ticket",
      "provider=true;ProviderTicket=$ticket,ReceiverTicket=$ticket"] := by
  repeat' constructor

/-- what `removeBidTemplate`/`updateSidecarDB` were written against (`clientdb/sidecar.go`) -/
theorem removeBidTemplate_matches :
    removeBidTemplateNilGuards = ["$1.Bucket(bidTemplateBucket) == nil", "$2 == order.ZeroNonce"] ∧
    removeBidTemplateToleratesMissing = true ∧
    updateSidecarTemplateGuard = ["$1.Order != nil", "$1.State.IsTerminal()"] := ⟨rfl, rfl, rfl⟩

/-- The RPC server around the negotiators: `CancelSidecar` hands the negotiator the state CANCELED (the model's
`cancelRPC` runs the finalization branch with `sCanceled`, which makes it notify the other side), and `DB.Sidecars` -
which `Start` resumes from and `setTicketStateForOrder` goes through - skips the nested bid-template bucket WITHOUT ending
the iteration, so a ticket is found whatever its random ID is (`restartParty`/`completeRPC` see the stored ticket
unconditionally). -/
theorem rpc_store_match : cancelSidecarHandsCanceled = true ∧ sidecarsSkipsNestedBucket = true := by decide

theorem finReturns_true : finReturns = true := by decide

def recpSel (cur rs ps : Nat) : Nat :=
  if ps = 1 ∨ cur = 2 ∧ rs = 2 ∧ ps = 2 then 1 else if cur = 2 ∧ ps = 3 then 2
  else if ps = 6 then 3 else if cur = 4 then 4 else 5

def provSel (cur rs ps : Nat) : Nat :=
  if cur = 0 ∧ ps = 1 then 0 else if cur = 1 ∧ rs = 2 then 1 else if rs = 6 then 2
  else if cur = 2 then 3 else if cur = 4 ∧ rs = 2 ∨ cur = 3 then 5 else 6

/-- a clause that falls through into the next one: either guard runs that body -/
theorem ite_or_same {α : Type} (a b : Prop) [Decidable a] [Decidable b] (x y : α) :
    (if a then x else if b then x else y) = if a ∨ b then x else y := by
  by_cases a <;> by_cases b <;> simp [*]

/-- what the field index of a guard atom stands for when both tickets are there -/
def fld (cur rs ps : Nat) : Nat → Nat
  | 0 => cur
  | 1 => rs
  | _ => ps

theorem evalAtoms_some (cur : Nat) (r p : Ticket) (as : List (Nat × Nat)) :
    evalAtoms cur (some r) (some p) as = some (as.all fun a => fld cur r.state p.state a.1 = a.2) := by
  induction as with
  | nil => rfl
  | cons a as ih =>
    obtain ⟨f, v⟩ := a
    have hf : fieldVal cur (some r) (some p) f = some (fld cur r.state p.state f) := by
      rcases f with _ | _ | f <;> rfl
    simp only [evalAtoms, hf, ih, List.all_cons]
    split <;> simp [*]

theorem selectFrom_cons (cur : Nat) (r p : Ticket) (c : StepCase) (rest : List StepCase) (i : Nat) :
    selectFrom cur (some r) (some p) (c :: rest) i =
      if c.isDefault then some i
      else if c.atoms.all fun a => fld cur r.state p.state a.1 = a.2 then some (fallTo (c :: rest) i)
      else selectFrom cur (some r) (some p) rest (i + 1) := by
  simp only [selectFrom, evalAtoms_some]
  cases c.atoms.all fun a => fld cur r.state p.state a.1 = a.2 <;> rfl

theorem recp_select (cur : Nat) (r p : Ticket) :
    selectBodyR cur (some r) (some p) = some (recpSel cur r.state p.state) := by
  simp only [selectBodyR, selectCase, recipientCases, selectFrom_cons, List.all_cons, List.all_nil, fld, fallTo,
    recpSel, apply_ite (Option.map _), Option.map_some]
  simp [bodyOf, sigR, apply_ite some, ite_or_same]

theorem prov_select (cur : Nat) (r p : Ticket) :
    selectBodyP cur (some r) (some p) = some (provSel cur r.state p.state) := by
  simp only [selectBodyP, selectCase, providerCases, selectFrom_cons, List.all_cons, List.all_nil, fld, fallTo,
    provSel, apply_ite (Option.map _), Option.map_some]
  simp [bodyOf, sigP, apply_ite some, ite_or_same]

theorem validateOrdered_sound (t : Ticket) (h : validateOrdered t = true) : ValidSigned t := by
  unfold validateOrdered verifyOffer verifyOrder at h
  unfold ValidSigned
  cases ho : t.order with
  | none => simp [ho] at h
  | some o =>
    simp [ho] at h
    exact ⟨h.2, h.1.1.2.2, o, rfl, h.1.2.2.2, h.1.2.2.1.2⟩

theorem driverExpect_ok {pend : Option Nat} {t t' : Ticket} (h : driverExpect pend t = (t', true)) :
    t' = { t with state := sExpecting } := by
  unfold driverExpect at h
  cases ho : t.order with
  | none => simp [ho] at h
  | some o =>
    simp only [ho] at h
    split at h
    · simp at h
    · simp at h; exact h.1.symm

/-- the ticket states a handler persists, in order: a successful `ExpectChannel` writes the store too -/
def writes : List Eff → List Nat
  | [] => []
  | .update t true :: r => t.state :: writes r
  | .expect t true :: r => t.state :: writes r
  | _ :: r => writes r

theorem writes_cons (e : Eff) (es : List Eff) : writes (e :: es) = writes [e] ++ writes es := by
  cases e with
  | update t ok | expect t ok => cases ok <;> rfl
  | _ => rfl

theorem writes_take {w : Nat} {es : List Eff} {k : Nat} (h : w ∈ writes (es.take k)) : w ∈ writes es := by
  induction es generalizing k with
  | nil => simpa using h
  | cons e es ih =>
    cases k with
    | zero => simp [writes] at h
    | succ k =>
      rw [List.take_succ_cons, writes_cons, List.mem_append] at h
      rw [writes_cons, List.mem_append]
      exact h.imp_right ih

/-- `hcur`: in the transient "created" the provider's re-send clause comes before its cancel clause -/
theorem cancel_spawn_P (s : Sys) (cur : Nat) (l pkt : Ticket) (hc : pkt.state = sCanceled) (hcur : cur ≠ sCreated) :
    stepProvider (envP s) cur (some pkt) (some l) = ⟨.ok sCanceled (some pkt) (some l), some l, [.spawnFin]⟩ := by
  have hcur' : ¬ cur = 0 := hcur
  simp only [stepProvider, prov_select, provSel, hc]
  simp [hcur', provBody, sCanceled]

theorem cancel_spawn_R (s : Sys) (cur : Nat) (l pkt : Ticket) (hc : pkt.state = sCanceled) :
    stepRecipient (envR s) cur (some l) (some pkt) = ⟨.ok sCanceled (some l) (some pkt), some pkt, [.spawnFin]⟩ := by
  simp only [stepRecipient, recp_select, recpSel, hc]
  simp [recpBody, sCanceled]

inductive POut (s : Sys) (cur : Nat) (pkt l : Ticket) : Out → Prop
  | resend : cur = 0 → l.state = 1 →
      POut s cur pkt l ⟨.ok sOffered (some l) (some pkt), some l, [.send false l true]⟩
  | persist : cur = 1 → pkt.state = 2 →
      POut s cur pkt l ⟨.ok sRegistered (some pkt) (some pkt), some l, [.update pkt true]⟩
  | persistFail : cur = 1 → pkt.state = 2 →
      POut s cur pkt l ⟨.err eUpdate, some l, [.update pkt false]⟩
  | cancel : pkt.state = 6 →
      POut s cur pkt l ⟨.ok sCanceled (some pkt) (some l), some l, [.spawnFin]⟩
  | submitOk (l' : Ticket) : cur = 2 → s.bidStored = false → signForOrder l = some l' →
      POut s cur pkt l ⟨.ok sOrdered (some l') (some l'), some l', [.submit l' .ok]⟩
  | submitDup (l' : Ticket) : cur = 2 → signForOrder l = some l' →
      POut s cur pkt l ⟨.err eSubmit, some l', [.submit l' .errOther]⟩
  | submitRej : cur = 2 →
      POut s cur pkt l ⟨.err eSubmit, some l, [.submit l .errOther]⟩
  | finalOk : (cur = 3 ∨ cur = 4) →
      POut s cur pkt l ⟨.ok sExpecting (some { l with state := sExpecting }) (some { l with state := sExpecting }),
        some { l with state := sOrdered },
        [.send false { l with state := sOrdered } true, .update { l with state := sExpecting } true]⟩
  | finalFail : (cur = 3 ∨ cur = 4) →
      POut s cur pkt l ⟨.err eUpdate, some { l with state := sOrdered },
        [.send false { l with state := sOrdered } true, .update { l with state := sExpecting } false]⟩
  | unhandled : POut s cur pkt l ⟨.err eUnhandled, some l, []⟩

theorem stepProvider_POut (s : Sys) (cur : Nat) (pkt l : Ticket) :
    POut s cur pkt l (stepProvider (envP s) cur (some pkt) (some l)) := by
  simp only [stepProvider, prov_select]
  unfold provSel
  split
  · rename_i h; simp only [provBody, envP, if_true]; exact .resend h.1 h.2
  split
  · rename_i h
    simp only [provBody, envP]
    by_cases hid : (pkt.id == 0) = true
    · simp only [hid, if_true]; exact .persist h.1 h.2
    · simp only [hid]; exact .persistFail h.1 h.2
  split
  · rename_i h; simp only [provBody]; exact .cancel h
  split
  · rename_i h
    simp only [provBody, envP, driverSubmit]
    cases hsg : signForOrder l with
    | none => exact .submitRej h
    | some l' =>
      cases hb : s.bidStored
      · exact .submitOk l' h hb hsg
      · exact .submitDup l' h hsg
  split
  · rename_i h
    have hc : cur = 3 ∨ cur = 4 := h.elim (fun h => .inr h.1) .inl
    simp only [provBody, envP, if_true]
    by_cases hid : (l.id == 0) = true
    · simp only [hid, if_true]; exact .finalOk hc
    · simp only [hid]; exact .finalFail hc
  · simp only [provBody]; exact .unhandled

inductive ROut (s : Sys) (cur : Nat) (l pkt : Ticket) : Out → Prop
  | resend : ROut s cur l pkt ⟨.ok sRegistered (some l) (some l), some pkt, [.send true l true]⟩
  | expectOk : cur = 2 → pkt.state = 3 → validateOrdered pkt = true →
      ROut s cur l pkt ⟨.ok sExpecting (some { pkt with state := sExpecting }) (some { pkt with state := sExpecting }),
        some { pkt with state := sExpecting }, [.validate pkt true, .expect { pkt with state := sExpecting } true]⟩
  | expectFail (p' : Ticket) : driverExpect s.pending pkt = (p', false) →
      ROut s cur l pkt ⟨.err eExpect, some p', [.validate pkt true, .expect p' false]⟩
  | invalid : ROut s cur l pkt ⟨.err eValidate, some pkt, [.validate pkt false]⟩
  | cancel : pkt.state = 6 → ROut s cur l pkt ⟨.ok sCanceled (some l) (some pkt), some pkt, [.spawnFin]⟩
  | reexpOk : cur = 4 → pkt.state ≠ 1 → pkt.state ≠ 6 →
      ROut s cur l pkt ⟨.ok sExpecting (some l) (some { pkt with state := sExpecting }),
        some { pkt with state := sExpecting }, [.expect { pkt with state := sExpecting } true]⟩
  | reexpFail (p' : Ticket) : driverExpect s.pending pkt = (p', false) →
      ROut s cur l pkt ⟨.err eExpect, some p', [.expect p' false]⟩
  | unhandled : ROut s cur l pkt ⟨.err eUnhandled, some pkt, []⟩

theorem stepRecipient_ROut (s : Sys) (cur : Nat) (l pkt : Ticket) :
    ROut s cur l pkt (stepRecipient (envR s) cur (some l) (some pkt)) := by
  simp only [stepRecipient, recp_select]
  unfold recpSel
  split
  · simp only [recpBody, envR, if_true]; exact .resend
  split
  · rename_i h
    simp only [recpBody, envR]
    by_cases hv : validateOrdered pkt = true
    · simp only [hv, if_true]
      cases hde : driverExpect s.pending pkt with
      | mk p' b =>
        cases b
        · simp only []; exact .expectFail p' hde
        · cases driverExpect_ok hde; exact .expectOk h.1 h.2 hv
    · simp only [hv]; exact .invalid
  split
  · rename_i h; simp only [recpBody]; exact .cancel h
  split
  · rename_i h1 _ h6 h
    simp only [recpBody, envR]
    cases hde : driverExpect s.pending pkt with
    | mk p' b =>
      cases b
      · simp only []; exact .reexpFail p' hde
      · cases driverExpect_ok hde; exact .reexpOk h (fun h => h1 (.inl h)) h6
  · simp only [recpBody]; exact .unhandled

theorem POut_writes {s : Sys} {cur w : Nat} {pkt l : Ticket} {o : Out} (ho : POut s cur pkt l o)
    (h : w ∈ writes o.effs) :
    (cur = sOffered ∧ w = sRegistered) ∨ ((cur = sOrdered ∨ cur = sExpecting) ∧ w = sExpecting) := by
  cases ho <;> simp [writes] at h
  case persist hc hp => exact .inl ⟨hc, h.trans hp⟩
  case finalOk hc => exact .inr ⟨hc, h⟩

theorem ROut_writes {s : Sys} {cur w : Nat} {l pkt : Ticket} {o : Out} (ho : ROut s cur l pkt o)
    (h : w ∈ writes o.effs) : w = sExpecting := by
  cases ho <;> simp [writes] at h <;> exact h

theorem ROut_expect {s : Sys} {cur : Nat} {l pkt t' : Ticket} {o : Out} (ho : ROut s cur l pkt o)
    (h : Eff.expect t' true ∈ o.effs) :
    (cur = sRegistered ∧ pkt.state = sOrdered ∧ validateOrdered pkt = true ∧ t' = { pkt with state := sExpecting }) ∨
    cur = sExpecting := by
  cases ho <;> simp at h
  case expectOk hc hp hv => exact .inl ⟨hc, hp, hv, h⟩
  case reexpOk hc _ _ => exact .inr hc

end Pool.C16
