import PoolModel.C20
import PoolProofs.C20Lemmas
import PoolProofs.C08
/-!
# C20 — recovery restores a spendable account and never moves funds

`manager.RecoverAccount` (= op `recover` of the C08 machine), `unmarshallServerRecoveredAccount` (regenerated table)
and the key sweep of `Client.RecoverAccounts`.
-/
namespace Pool.C20
open Pool.Gen Pool.C08

/-- pending-open and open are re-checked on chain (`initiated`); the other reported states keep their meaning -/
theorem C20_state_mapping :
    Lifecycle.serverStates.map (fun p => (p.1, (recoverState p.2).name)) =
      [("AuctionAccountState_STATE_PENDING_OPEN", "StateInitiated"),
       ("AuctionAccountState_STATE_OPEN", "StateInitiated"),
       ("AuctionAccountState_STATE_EXPIRED", "StateExpired"),
       ("AuctionAccountState_STATE_PENDING_UPDATE", "StatePendingUpdate"),
       ("AuctionAccountState_STATE_CLOSED", "StateClosed"),
       ("AuctionAccountState_STATE_PENDING_BATCH", "StatePendingBatch"),
       ("AuctionAccountState_STATE_EXPIRED_PENDING_UPDATE", "StateExpiredPendingUpdate")] ∧
    Lifecycle.recoveryNoLatestTx = [0] := by decide +kernel

/-- whatever number the auctioneer sends, the local state is never `open`, `pendingOpen` (no confirmation is taken
on trust) or `pendingClosed` (nothing is rebroadcast); an unknown number is treated as closed -/
theorem C20_state_mapping_total (srv : Nat) :
    reportable (recoverState srv) = true ∧
    (Lifecycle.recoveryMap.lookup srv = none → recoverState srv = .closed) := by
  unfold recoverState
  cases h : Lifecycle.recoveryMap.lookup srv with
  | none => exact ⟨by decide, fun _ => by decide⟩
  | some n =>
    have hall : ∀ r ∈ Lifecycle.recoveryMap, reportable ((State.ofNat? r.2).getD .closed) = true := by decide
    exact ⟨hall _ (mem_of_lookup h), nofun⟩

/-- **C20 / no funding calls**: every effect `RecoverAccount` adds to the trace is a store write – no `SendOutputs`,
no `PublishTransaction`. -/
theorem C20_no_funding_calls (s : AState) (a : Acct) (known : List Tx) (h : reportable a.state = true) :
    ∀ e ∈ (step s (.recover a known)).1.trace, e ∈ s.trace ∨ ∃ b, e = Effect.write b := by
  have h0 : OnlyWrites s { s with wallet := known } := fun _ he => Or.inl he
  simp only [step]
  exact (h0.write _).resume_recovery _ false none fun (hc : a.state = .pendingClosed) => by rw [hc] at h; cases h

/-- … in particular for everything `unmarshallServerRecoveredAccount` can produce -/
theorem C20_no_funding_calls_reported (s : AState) (srv : Nat) (op : OutPoint) (v e ver bk hint : Nat)
    (latest : Option Tx) (known : List Tx) :
    ∀ x ∈ (step s (.recover (recovered srv op v e ver bk hint latest) known)).1.trace,
      x ∈ s.trace ∨ ∃ b, x = Effect.write b :=
  C20_no_funding_calls s _ known (C20_state_mapping_total srv).1

/-- **C20 / secret re-derived**: whatever the report carries and whatever state recovery ends in, the stored record
holds the secret the wallet's signer derives (`DeriveSharedKey(auctioneer key, trader key locator)`). -/
theorem C20_secret_rederived (s : AState) (a : Acct) (known : List Tx) (b : Acct)
    (hb : (step s (.recover a known)).1.acct = some b) : b.secret = s.signerSecret := by
  simp only [step] at hb
  exact SecOK.resume (SecOK.write _ _ rfl) _ rfl _ _ _ _ b hb

/-- **C20 / record matches**: if the auctioneer's report is consistent with its own latest transaction (`RecOK0`;
nothing to check for `initiated` / `closed`), the recovered store satisfies C08's I1.  For a re-checked account
(`initiated`) the stored transaction is the one *located* in the wallet or in the report, and the outpoint is
re-derived from it. -/
theorem C20_record_matches (k : Nat) (a : Acct) (known : List Tx)
    (hrep : RecOK0 k a) (hk : ∀ t ∈ known, t.single) (hl : ∀ t, a.latestTx = some t → t.single) :
    Inv1 (step (AState.init k) (.recover a known)).1 :=
  Inv1.step (C08_inv_init k) _ ⟨hrep, hk, hl⟩

theorem resume_cancel (s : AState) (a : Acct) (hst : a.state = .initiated) (hwf : s.walletFail = false)
    (hloc : locateTxByOutput s.wallet (a.out s.key) a.latestTx = none) :
    ((resume s a false true false none).1.acct.map (·.state)) = some .canceled :=
  -- of the outcomes of the `StateInitiated` clause only the cancellation is left
  resume_cases (P := fun x => x.1.acct.map (·.state) = some .canceled) s a false true false none
    (fun h => absurd hst h) (fun _ h => h.elim (fun h => nomatch hwf.symm.trans h) nofun)
    (fun _ _ _ _ => congrArg some (stored_state _)) fun _ _ _ _ hf _ => by
      cases hf with
      | located h => exact nomatch hloc.symm.trans h
      | created _ _ hr => cases hr

/-- **C20 / a wallet fault is not "funding unknown"**: when the wallet's transaction listing fails (and the report
does not carry the output), recovery returns the error and the record stays `initiated`, so a later attempt can
still locate the funding transaction. -/
theorem C20_wallet_fault_not_cancelled (s : AState) (a : Acct) (hst : a.state = .initiated)
    (hwf : s.walletFail = true) (hfull : viaFull s.key a = false) (b : Acct)
    (hb : (resume (write s a) a false true false none).1.acct = some b) :
    b.state = .initiated ∧ (resume (write s a) a false true false none).2 = .err := by
  have hw : (write s a).walletFail = true := hwf
  -- the clause neither cancels (the wallet failed) nor takes the report's transaction (it lacks the output): it fails
  refine resume_cases (P := fun x => x.1.acct = some b → b.state = .initiated ∧ x.2 = .err) (write s a) a false true
    false none (fun h => absurd hst h) (fun _ _ hb => ?_) (fun _ _ h => nomatch hw.symm.trans h)
    (fun _ _ _ _ hf _ => ?_) hb
  · obtain rfl : a.stored = b := Option.some.inj hb
    exact ⟨(stored_state a).trans hst, rfl⟩
  · cases hf with
    | located _ h => exact nomatch hfull.symm.trans (h hw)
    | created _ _ hr => cases hr

/-- **C20 / unknown funding ⇒ canceled**: an account reported open / pending open whose funding output is
neither in a wallet transaction nor in the reported latest transaction is stored as canceled-after-recovery. -/
theorem C20_unknown_funding_cancelled (k : Nat) (a : Acct) (known : List Tx)
    (hst : a.state = .initiated)
    (hw : ∀ t ∈ known, txHasOutput t (a.out k) = false)
    (hl : ∀ t, a.latestTx = some t → txHasOutput t (a.out k) = false) :
    ((step (AState.init k) (.recover a known)).1.acct.map (·.state)) = some .canceled := by
  have hloc : locateTxByOutput known (a.out k) a.latestTx = none := by
    cases h : locateTxByOutput known (a.out k) a.latestTx with
    | none => rfl
    | some t =>
      -- what the look-up returns has the output and comes from the wallet or the report
      obtain ⟨ht, hfrom⟩ := locateTxByOutput_spec h
      rw [hfrom.elim (hw t) (hl t)] at ht
      cases ht
  simp only [step]
  exact resume_cancel _ { a with secret := (AState.init k).signerSecret } hst rfl hloc

/-- **C20 / resumes watching**: whenever `RecoverAccount` succeeds, the recovered account is watched for the event
its state waits for (C08's I2), whatever registry there was. -/
theorem C20_resumes_watching (s : AState) (a : Acct) (known : List Tx) (hrep : reportable a.state = true)
    (hok : (step s (.recover a known)).2 = .ok) : Inv2 (step s (.recover a known)).1 := by
  simp only [step] at hok ⊢
  refine resume_inv2 _ _ _ _ _ _ (fun hne => write_acct_of_live _ hne fun (hc : a.state = .canceled) => ?_) (Or.inl hok)
  rw [hc] at hrep
  cases hrep

/-- no run of more than `MaxUnusedAccountKeyLookup` consecutive unknown keys (reservation-only answers do
not count, they neither reset nor advance the counter) -/
def NoLongGap : Nat → List Ans → Prop
  | _, [] => True
  | c, .unknown :: r => c + 1 ≤ Lifecycle.maxUnusedAccountKeyLookup ∧ NoLongGap (c + 1) r
  | c, .reservation :: r => NoLongGap c r
  | _, .full :: r => NoLongGap 0 r

def found : List Ans → Nat
  | [] => 0
  | .unknown :: r => found r
  | _ :: r => 1 + found r

/-- **C20 / sweep**: at most one handshake per key, and as long as no gap exceeds `MaxUnusedAccountKeyLookup` as many
accounts are recovered as the auctioneer knows, fully or as a reservation (which ones: `C20_sweep_complete`). -/
theorem C20_sweep_terminates_and_resets (c i : Nat) (l : List Ans) :
    requests c l ≤ l.length ∧ (NoLongGap c l → (sweep c i l).length = found l) := by
  fun_induction sweep c i l with
  | case1 => exact ⟨Nat.le_refl _, fun _ => rfl⟩
  | case2 c i r ih | case5 c i r ih =>
    simp only [requests, NoLongGap, found, List.length_cons]
    exact ⟨by omega, fun h => by rw [ih.2 h]; omega⟩
  | case3 c i r hc =>
    simp only [requests, hc, if_true, NoLongGap, List.length_cons]
    exact ⟨by omega, fun h => by omega⟩
  | case4 c i r hc ih =>
    simp only [requests, hc, if_false, NoLongGap, found, List.length_cons]
    exact ⟨by omega, fun h => ih.2 h.2⟩

/-- **C20 / derivation index**: after `AdvanceAccountDerivationIndex(maxIndex)` the wallet holds more keys than
the highest recovered key index, so the next `DeriveNextKey` (a new account) cannot hand out a recovered
account's key again; keys are never taken back. -/
theorem C20_advance_past (count minIndex : Nat) :
    advance count minIndex > minIndex ∧ advance count minIndex ≥ count := by
  unfold advance
  split <;> omega

/-- the regenerated shape of the sweep loop the model was written against -/
theorem C20_sweep_shape :
    Lifecycle.sweepStopCond = "MaxUnusedAccountKeyLookup < misses" ∧
    Lifecycle.sweepResets = true ∧ Lifecycle.sweepIncrements = true ∧
    -- the secret is re-derived before the record is stored, the stored record is resumed as a recovery
    callsBefore Lifecycle.recoverAccountCalls "DeriveSharedKey" "AddAccount" = true ∧
    callsBefore Lifecycle.recoverAccountCalls "AddAccount" "resumeAccount(false,true,0)" = true := by
  decide +kernel

/-- non-vacuity: a hole of 50 unused keys is skipped, a hole of 51 ends the sweep -/
example : sweep 0 0 (.full :: List.replicate 50 .unknown ++ [.full]) = [(0, false), (51, false)] := by decide
example : sweep 0 0 (.full :: List.replicate 51 .unknown ++ [.full]) = [(0, false)] := by decide
example : sweep 0 0 [.unknown, .reservation, .full] = [(1, true), (2, false)] := by decide

/-- non-vacuity of `C20_unknown_funding_cancelled` / `C20_record_matches`: open account, wallet knows the
funding transaction → pending open on the located output; wallet does not → canceled -/
example :
    let a := recovered 1 ⟨9, 9⟩ 500000 5000 1 2 900 none
    let t : Tx := { id := 1, spends := [], outs := [(1, a.out 1)], signed := true, wit := 0 }
    ((step (AState.init 1) (.recover a [t])).1.acct.map (fun a => (a.state, a.outpoint))) = some (.pendingOpen, ⟨1, 1⟩) ∧
    ((step (AState.init 1) (.recover a [])).1.acct.map (·.state)) = some .canceled := by decide +kernel

/-- **C20 / sweep recovers only what was reported**: the sweep never invents an account for a key the auctioneer does
not know (`p.2`: reservation only). -/
theorem C20_sweep_sound (c i : Nat) (l : List Ans) :
    ∀ p ∈ sweep c i l, i ≤ p.1 ∧ l[p.1 - i]? = some (if p.2 then Ans.reservation else Ans.full) := by
  -- an entry found in the rest of the list, one position further on
  have tail {a : Ans} {i : Nat} {r : List Ans} {p : Nat × Bool}
      (h : i + 1 ≤ p.1 ∧ r[p.1 - (i + 1)]? = some (if p.2 then Ans.reservation else Ans.full)) :
      i ≤ p.1 ∧ (a :: r)[p.1 - i]? = some (if p.2 then Ans.reservation else Ans.full) := by
    refine ⟨by omega, ?_⟩
    rw [show p.1 - i = (p.1 - (i + 1)) + 1 by omega, List.getElem?_cons_succ]; exact h.2
  intro p hp
  fun_induction sweep c i l with
  | case1 => cases hp
  | case2 c i r ih | case5 c i r ih =>
    rcases List.mem_cons.mp hp with rfl | hp
    · simp
    · exact tail (ih hp)
  | case3 c i r hc => cases hp
  | case4 c i r hc ih => exact tail (ih hp)

/-- **C20 / no key is recovered twice**: the recovered key indices are strictly increasing. -/
theorem C20_sweep_increasing (c i : Nat) (l : List Ans) :
    (sweep c i l).Pairwise (fun a b => a.1 < b.1) := by
  have lb (c' i : Nat) (r : List Ans) : ∀ p ∈ sweep c' (i + 1) r, i < p.1 := fun p h => by
    have := (C20_sweep_sound c' (i + 1) r p h).1; omega
  fun_induction sweep c i l with
  | case1 => exact List.Pairwise.nil
  | case2 c i r ih | case5 c i r ih => exact List.pairwise_cons.mpr ⟨lb _ i r, ih⟩
  | case3 c i r hc => exact List.Pairwise.nil
  | case4 c i r hc ih => exact ih

/-- **C20 / answers beyond the stopping point are irrelevant**: what was recovered stays recovered whatever the
auctioneer answers for later keys. -/
theorem C20_sweep_prefix (c i : Nat) (l l' : List Ans) : sweep c i l <+: sweep c i (l ++ l') := by
  fun_induction sweep c i l with
  | case1 => exact List.nil_prefix
  | case2 c i r ih | case5 c i r ih =>
    simp only [sweep, List.cons_append, List.cons_prefix_cons, true_and]
    exact ih
  | case3 c i r hc => exact List.nil_prefix
  | case4 c i r hc ih =>
    simp only [sweep, List.cons_append, hc, if_false]
    exact ih

/-- **C20 / the sweep stops for good** once more than `MaxUnusedAccountKeyLookup` keys in a row (reservation-only
answers aside) were unknown. -/
theorem C20_sweep_stops (c i : Nat) (l : List Ans)
    (h : c + 1 > Lifecycle.maxUnusedAccountKeyLookup) : sweep c i (Ans.unknown :: l) = [] := by
  simp [sweep, h]

example : (2, false) ∈ sweep 0 0 [.unknown, .reservation, .full] := by decide

/-- **C20 / sweep completeness**: as long as no gap exceeds `MaxUnusedAccountKeyLookup`, every key the auctioneer
knows is recovered, as a full account or as a reservation. -/
theorem C20_sweep_complete (c i : Nat) (l : List Ans) (h : NoLongGap c l) (j : Nat) :
    (l[j]? = some Ans.full → (i + j, false) ∈ sweep c i l) ∧
    (l[j]? = some Ans.reservation → (i + j, true) ∈ sweep c i l) := by
  -- position `j + 1` of `a :: r` is position `j` of `r`, whose index is one further on
  have tail {a : Ans} {r : List Ans} {i j : Nat} {s : List (Nat × Bool)}
      (ih : (r[j]? = some Ans.full → (i + 1 + j, false) ∈ s) ∧ (r[j]? = some Ans.reservation → (i + 1 + j, true) ∈ s)) :
      ((a :: r)[j + 1]? = some Ans.full → (i + (j + 1), false) ∈ s) ∧
      ((a :: r)[j + 1]? = some Ans.reservation → (i + (j + 1), true) ∈ s) := by
    rw [List.getElem?_cons_succ, show i + (j + 1) = i + 1 + j by omega]; exact ih
  fun_induction sweep c i l generalizing j with
  | case1 => simp
  | case2 c i r ih | case5 c i r ih =>
    cases j with
    | zero => simp
    | succ j => exact (tail (ih h j)).imp (fun f x => List.mem_cons_of_mem _ (f x)) fun f x => List.mem_cons_of_mem _ (f x)
  | case3 c i r hc => exact absurd h.1 (by omega)
  | case4 c i r hc ih =>
    cases j with
    | zero => simp
    | succ j => exact tail (ih h.2 j)

/-- **C20 / a recovered reservation is completed** (regenerated shape of `resumeAccount`): the `StateInitiated` clause
falls through into the `StatePendingOpen` clause, which calls `Auctioneer.InitAccount` unconditionally – also on
recovery, where for a reservation-only key it is the only message that tells the auctioneer the located outpoint. -/
theorem C20_recovery_completes_reservation_shape :
    (Lifecycle.resume.lookup 0).map (·.contains "fallthrough") = some true ∧
    (Lifecycle.resume.lookup 1).map (·.contains "InitAccount") = some true := by
  decide +kernel

end Pool.C20
