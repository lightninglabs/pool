import PoolProofs.C10LemmasTlv
/-! Order round trips: the base encoding and the additional data (the TLV stream over the regenerated record lists). -/
namespace Pool.C10
open Pool.Gen

theorem orderTypes_facts : typeAsk ≠ typeBid ∧ typeAsk < 256 ∧ typeBid < 256 := by decide +kernel

theorem Kit.WF.minUnitsMatch {k : Kit} (h : k.WF) : WFu64 k.minUnitsMatch := h.2.2.2.2.2.2.2.2.2.2.2.2.1

theorem Kit.WF.tlvTerms {k : Kit} (h : k.WF) :
    WFu8 k.channelType ∧ (∀ i ∈ k.allowedNodeIDs, i.length = 33) ∧ (∀ i ∈ k.notAllowedNodeIDs, i.length = 33) ∧
    k.allowedNodeIDs.length * 33 < 2 ^ 48 ∧ k.notAllowedNodeIDs.length * 33 < 2 ^ 48 ∧ WFu8 k.auctionType :=
  h.2.2.2.2.2.2.2.2.2.2.2.2.2

theorem Order.WF.kit {o : Order} (h : o.WF) : o.kit.WF := by cases o <;> exact h.1

theorem Order.WF.minUnits {o : Order} (h : o.WF) : WFu64 o.kit.minUnitsMatch := h.kit.minUnitsMatch

theorem Order.WF.announcement {k a c} (h : (Order.ask k a c).WF) : WFu8 a := h.2.1
theorem Order.WF.confirmation {k a c} (h : (Order.ask k a c).WF) : WFu8 c := h.2.2
theorem Order.WF.tier {k t s tk u z} (h : (Order.bid k t s tk u z).WF) : WFu32 t := h.2.1
theorem Order.WF.selfChanBalance {k t s tk u z} (h : (Order.bid k t s tk u z).WF) : WFu64 s := h.2.2.1
theorem Order.WF.ticket {k t s b u z} (h : (Order.bid k t s (some b) u z).WF) :
    b.length < 2 ^ 48 ∧ ticketCanonical b = true := h.2.2.2

theorem order_base_rt (o : Order) (h : o.kit.WF) :
    Reads (deserializeOrder o.kit.nonce) (serializeOrder o) o.baseProj := by
  obtain ⟨-, hp, hver, hst, hfr, hamt, hu, huu, hkl, hfee, hak, hld, -⟩ := h
  obtain ⟨hab, ha, hb⟩ := orderTypes_facts
  have htyp : WFu8 o.typeNum := by unfold Order.typeNum WFu8; split <;> omega
  have hw : Reads (decFields kitTbl (elemList "DeserializeOrder" 0) ⟨Kit.new o.kit.nonce, 0⟩)
      (encFields kitTbl (elemList "SerializeOrder" 0) ⟨o.kit, o.typeNum⟩) ⟨o.kit.baseProj, o.typeNum⟩ :=
    .fields_cons rfl rfl ((Reads.take hp).map _) <|
    .fields_cons rfl rfl ((readU32_rt hver).map _) <|
    .fields_cons rfl rfl ((readU8_rt htyp).map _) <|
    .fields_cons rfl rfl ((readU8_rt hst).map _) <|
    .fields_cons rfl rfl ((readU32_rt hfr).map _) <|
    .fields_cons rfl rfl ((readU64_rt hamt).map _) <|
    .fields_cons rfl rfl ((readU64_rt hu).map _) <|
    .fields_cons rfl rfl ((readKeyLoc_rt hkl).map _) <|
    .fields_cons rfl rfl ((readU64_rt hfee).map _) <|
    .fields_cons rfl rfl ((Reads.take hak).map _) <|
    .fields_cons rfl rfl ((readU64_rt huu).map _) <|
    .fields_cons rfl rfl ((readU32_rt hld).map _) .fields_nil
  refine hw.bind_nil ?_
  cases o with
  | ask k a c => rw [if_pos (by rfl)]; exact .pure_nil _
  | bid k t s tk u z => rw [if_neg (by exact hab.symm), if_pos (by rfl)]; exact .pure_nil _

def Lser : List (String × String) := (Store.tlvRecords.lookup "serializeOrderTlvData").getD []
def Lde : List (String × String) := (Store.tlvRecords.lookup "deserializeOrderTlvData").getD []

theorem assembleKeysAux_flatten (ks : List Bytes) (h : ∀ k ∈ ks, k.length = 33) :
    assembleKeysAux ks.length ks.flatten = ks := by
  induction ks with
  | nil => rfl
  | cons k ks ih =>
    have hk := h k (List.mem_cons_self)
    rw [List.length_cons, assembleKeysAux, List.flatten_cons, List.take_left' hk, List.drop_left' hk,
      ih (fun x hx => h x (List.mem_cons_of_mem _ hx))]

theorem flatten_length (ks : List Bytes) (h : ∀ k ∈ ks, k.length = 33) : ks.flatten.length = 33 * ks.length := by
  rw [List.length_flatten, List.map_congr_left h, List.map_const', List.sum_replicate_nat, Nat.mul_comm]

theorem assembleKeys_flatten (ks : List Bytes) (h : ∀ k ∈ ks, k.length = 33) :
    assembleKeys (flattenKeys ks) = some ks := by
  unfold assembleKeys flattenKeys
  have hl := flatten_length ks h
  rw [if_neg (by omega), hl, Nat.mul_div_cancel_left _ (by decide : 0 < 33), assembleKeysAux_flatten ks h]

theorem tlvType_wf : ∀ n ∈ Lser.map (·.1), WFu64 (tlvType n) := by decide +kernel

theorem b2n_lt (b : Bool) : WFu8 (b2n b) := by cases b <;> decide

theorem flattenKeys_lt (ks : List Bytes) (h : ∀ k ∈ ks, k.length = 33) (hl : ks.length * 33 < 2 ^ 48) :
    (flattenKeys ks).length < 2 ^ 48 := by
  unfold flattenKeys; rw [flatten_length ks h]; omega

/-- the additional data of an order row by row: what `serializeOrderTlvData` appends under each type number -/
def orderRows (o : Order) : TlvRows :=
  [(1, match o with
      | .bid _ _ s _ _ _ => if s ≠ 0 then some (.u64, .num s) else none
      | _ => none),
   (2, match o with
      | .bid _ _ _ (some b) _ _ => some (.bytes, .bytes b)
      | _ => none),
   (3, some (.u8, .num o.kit.channelType)),
   (4, if o.kit.allowedNodeIDs.length > 0 then some (.bytes, .bytes (flattenKeys o.kit.allowedNodeIDs)) else none),
   (5, if o.kit.notAllowedNodeIDs.length > 0 then some (.bytes, .bytes (flattenKeys o.kit.notAllowedNodeIDs))
      else none),
   (6, match o with
      | .bid _ _ _ _ u _ => some (.u8, .num (b2n u))
      | _ => some (.u8, .num 0)),
   (7, match o with
      | .ask _ a _ => some (.u8, .num a)
      | _ => some (.u8, .num 0)),
   (8, match o with
      | .bid _ _ _ _ _ z => some (.u8, .num (b2n z))
      | _ => some (.u8, .num 0)),
   (9, match o with
      | .ask _ _ c => some (.u8, .num c)
      | _ => some (.u8, .num 0)),
   (10, some (.u8, .num (o.kit.auctionType % 256))),
   (11, if o.kit.isPublic then some (.u8, .num 1) else none)]

/-- (R) by evaluation of the regenerated record list, the type numbers and `orderTlvVars` -/
theorem serializeOrderTlvData_rows (o : Order) : serializeOrderTlvData o = encStream (orderRows o).recs := rfl

/-- (R) the kinds `deserializeOrderTlvData` registers -/
theorem orderKinds : tlvKnownOf "deserializeOrderTlvData" orderTlvKinds =
    [(1, .u64), (2, .bytes), (3, .u8), (4, .bytes), (5, .bytes), (6, .u8), (7, .u8), (8, .u8), (9, .u8), (10, .u8),
     (11, .u8)] := by decide +kernel

theorem orderRows_ok (o : Order) (h : o.WF) : ∀ r ∈ orderRows o, ∀ kx ∈ r.2,
    TlvRec.WF ⟨r.1, kx.1, kx.2⟩ ∧ (tlvKnownOf "deserializeOrderTlvData" orderTlvKinds).lookup r.1 = some kx.1 := by
  obtain ⟨hct, hal, hnal, hall, hnall, hat⟩ := h.kit.tlvTerms
  rw [orderKinds]
  simp only [orderRows, List.forall_mem_cons]
  -- a bullet per row: the value fits the kind the reader registers for its number
  refine ⟨?_, ?_, ?_, ?_, ?_, ?_, ?_, ?_, ?_, ?_, ?_, nofun⟩ <;> intro kx hv
  · split at hv
    · split at hv <;> cases hv
      exact ⟨⟨(by decide : WFu64 1), h.selfChanBalance⟩, rfl⟩
    · cases hv
  · split at hv <;> cases hv
    exact ⟨⟨(by decide : WFu64 2), h.ticket.1⟩, rfl⟩
  · cases hv
    exact ⟨⟨(by decide : WFu64 3), hct⟩, rfl⟩
  · split at hv <;> cases hv
    exact ⟨⟨(by decide : WFu64 4), flattenKeys_lt _ hal hall⟩, rfl⟩
  · split at hv <;> cases hv
    exact ⟨⟨(by decide : WFu64 5), flattenKeys_lt _ hnal hnall⟩, rfl⟩
  · split at hv <;> cases hv
    · exact ⟨⟨(by decide : WFu64 6), b2n_lt _⟩, rfl⟩
    · exact ⟨by decide, rfl⟩
  · split at hv <;> cases hv
    · exact ⟨⟨(by decide : WFu64 7), h.announcement⟩, rfl⟩
    · exact ⟨by decide, rfl⟩
  · split at hv <;> cases hv
    · exact ⟨⟨(by decide : WFu64 8), b2n_lt _⟩, rfl⟩
    · exact ⟨by decide, rfl⟩
  · split at hv <;> cases hv
    · exact ⟨⟨(by decide : WFu64 9), h.confirmation⟩, rfl⟩
    · exact ⟨by decide, rfl⟩
  · cases hv
    exact ⟨⟨(by decide : WFu64 10), Nat.mod_lt _ (by decide)⟩, rfl⟩
  · split at hv <;> cases hv
    exact ⟨by decide, rfl⟩
/-- (R) the type numbers the reader asks the decoded map for -/
theorem orderTlvTypes : tlvType "bidSelfChanBalanceType" = 1 ∧ tlvType "bidSidecarTicketType" = 2 ∧
    tlvType "orderChannelType" = 3 ∧ tlvType "allowedNodeIDsType" = 4 ∧ tlvType "notAllowedNodeIDsType" = 5 ∧
    tlvType "bidUnannouncedChannelType" = 6 ∧ tlvType "askChannelAnnouncementConstraintsType" = 7 ∧
    tlvType "bidZeroConfType" = 8 ∧ tlvType "askChannelConfirmationConstraintsType" = 9 ∧
    tlvType "orderAuctionType" = 10 ∧ tlvType "orderIsPublicType" = 11 := by decide +kernel

theorem b2n_eq_one (b : Bool) : (b2n b = 1) = (b = true) := by cases b <;> simp [b2n]

/-- what the `order` and `order-tlv` values of `o`'s bucket give back: all of `o` except the two values kept under their
own keys, node tier (0) and min units match (`mu`: whatever the reader has put there by then – `completeOrder` has set it
before it reads the stream, `loadOrder` and `copyOrderRec` have not) -/
def Order.readBack (mu : Nat) : Order → Order
  | .ask k a c => .ask { k with minUnitsMatch := mu } a c
  | .bid k _ s tk u z => .bid { k with minUnitsMatch := mu } 0 s tk u z

theorem applyKitTlv_rt (o : Order) (h : o.WF) (mu : Nat) (m : TlvMap)
    (hm : (orderRows o).HeldBy m) :
    applyKitTlv m { o.kit.baseProj with minUnitsMatch := mu } = some { o.kit with minUnitsMatch := mu } := by
  obtain ⟨-, hal, hnal, -, -, hat⟩ := h.kit.tlvTerms
  simp only [TlvRows.HeldBy, orderRows, List.forall_mem_cons] at hm
  simp only [applyKitTlv, parsedNum, parsedBytes, orderTlvTypes, hm, Nat.mod_eq_of_lt hat, Kit.baseProj]
  -- each optional term is absent on both sides or written and read back
  generalize o.kit.allowedNodeIDs = al at *
  generalize o.kit.notAllowedNodeIDs = nal at *
  generalize o.kit.isPublic = pub
  cases al <;> cases nal <;> cases pub <;>
    simp [assembleKeys_flatten _ hal, assembleKeys_flatten _ hnal]

theorem readTicket_canonical (b : Bytes) (h : ticketCanonical b = true) : readTicket b = .ok b [] :=
  eq_of_beq h

theorem applyTypeTlv_rt (o : Order) (h : o.WF) (k0 : Kit) (m : TlvMap)
    (hm : (orderRows o).HeldBy m) :
    applyTypeTlv m (o.baseProj.setKit k0) = .ok ((o.readBack 0).setKit k0) [] := by
  simp only [TlvRows.HeldBy, orderRows, List.forall_mem_cons] at hm
  cases o with
  | ask k a c =>
    simp only [Order.baseProj, Order.readBack, Order.setKit, applyTypeTlv, parsedNum, orderTlvTypes, hm]
    rfl
  | bid k t s tk u z =>
    simp only [Order.baseProj, Order.readBack, Order.setKit, applyTypeTlv, parsedNum, parsedBytes, orderTlvTypes, hm]
    cases tk with
    | none => by_cases hs : s = 0 <;> simp [hs, b2n_eq_one]
    | some b => by_cases hs : s = 0 <;> simp [hs, b2n_eq_one, readTicket_canonical b h.ticket.2]

/-- the additional-data round trip, into the base-decoded order whatever min units match it carries by then -/
theorem order_tlv_rt (o : Order) (h : o.WF) (mu : Nat) :
    deserializeOrderTlvData (serializeOrderTlvData o) (o.baseProj.setKit { o.baseProj.kit with minUnitsMatch := mu }) =
      .ok (o.readBack mu) [] := by
  obtain ⟨m, hdec, hm⟩ := tlvRows_decode (orderRows o) _ (show List.Pairwise (· < ·) (List.range' 1 11) by decide)
    (orderRows_ok o h)
  unfold deserializeOrderTlvData
  rw [serializeOrderTlvData_rows, hdec]
  simp only [applyTypeTlv_rt o h _ m hm]
  have hk := applyKitTlv_rt o h mu m hm
  cases o <;> simp only [Order.readBack, Order.baseProj, Order.setKit, Order.kit] at hk ⊢ <;> rw [hk]

/-- the stream depends on neither of the two (`copyOrder` re-serialises it) -/
theorem serializeOrderTlvData_readBack (o : Order) (mu : Nat) :
    serializeOrderTlvData (o.readBack mu) = serializeOrderTlvData o := by
  rw [serializeOrderTlvData_rows, serializeOrderTlvData_rows]
  cases o with
  | ask k a c => rfl
  | bid k t s tk u z => cases tk <;> rfl

theorem order_tlv_rt_baseProj (o : Order) (h : o.WF) :
    deserializeOrderTlvData (serializeOrderTlvData o) o.baseProj = .ok (o.readBack 0) [] := by
  have := order_tlv_rt o h 0
  rwa [show o.baseProj.setKit { o.baseProj.kit with minUnitsMatch := 0 } = o.baseProj by cases o <;> rfl] at this

end Pool.C10
