import PoolProofs.C19Lemmas
import PoolProofs.C19LemmasRpc
import PoolModel.Generated.C19State
import PoolModel.Generated.C19Locks
/-! C19: decoding untrusted tickets and auctioneer batch messages never crashes.  `repoCfg` / `repoRpcCfg` are computed
from facts regenerated from the Go source (which tlv decode variant is called, which nil tests exist, which reject
call follows a parse error), so the theorems are re-checked against the current tree. -/
namespace Pool.C19
open Pool.Dec

/-- (regenerated fact) the current sidecar/tlv.go calls the size-capped tlv decoders -/
theorem C19_repo_decoders_capped (m : Nat) : (repoCfg m).p2pTop = true ∧ (repoCfg m).p2pSub = true :=
  ⟨rfl, rfl⟩

/-- For EVERY byte string `DeserializeTicket` yields a ticket or an error, and the decoding loop ends within `len+1`
iterations (running out of fuel counts as a panic), provided the runtime grants allocations of 65535 bytes. -/
theorem C19_ticket_total (maxAlloc : Nat) (h : 65535 ≤ maxAlloc) (b : Bytes) :
    deserializeTicket (repoCfg maxAlloc) b ≠ .panic :=
  deserializeTicket_ne_panic (repoCfg maxAlloc) (C19_repo_decoders_capped maxAlloc).1
    (C19_repo_decoders_capped maxAlloc).2 h b

example : deserializeTicket (repoCfg (2 ^ 48)) [10, 0xff, 0xff, 0xff, 0xff, 0xff, 0xff, 0xff, 0xff, 0xff]
    = .err .toolarge := by rfl
example : ∃ t, deserializeTicket (repoCfg (2 ^ 48)) [1, 8, 1, 2, 3, 4, 5, 6, 7, 8, 2, 1, 1, 3, 1, 4, 99, 1, 0] = .ok t ∧
    t.state = 4 := ⟨_, by rfl, by rfl⟩

/-- The same for `DecodeString` on text up to the allocation limit: every slice expression is in bounds and
base58.Decode allocates at most `len(s)` bytes. -/
theorem C19_string_total (H : Bytes → Bytes) (hH : ∀ x, 4 ≤ (H x).length) (maxAlloc : Nat) (h : 65535 ≤ maxAlloc)
    (s : Bytes) (hs : s.length ≤ maxAlloc) : decodeString H (repoCfg maxAlloc) s ≠ .panic :=
  decodeString_ne_panic H hH (repoCfg maxAlloc) (C19_repo_decoders_capped maxAlloc).1
    (C19_repo_decoders_capped maxAlloc).2 h s hs

section
/- the three inputs below are decoded by unfolding the model; the lengths they declare are `2^64 - 1` -/
attribute [local simp] deserializeTicket decodeStream ticketRecs sortedTypes decodeLoop readVarInt beNat getRecord
  dVarBytes Pool.Gen.C15.idType Pool.Gen.C15.versionType Pool.Gen.C15.stateType Pool.Gen.C15.offerType
  Pool.Gen.C15.recipientType Pool.Gen.C15.orderType Pool.Gen.C15.executionType

/-- The pinned rule (uncapped `DecodeWithParsedTypes`) DOES panic: a 10-byte input declaring a record of
2^64-1 bytes for the known type 10 requests that allocation. -/
theorem C19_pinned_ticket_panics (maxAlloc : Nat) (h : maxAlloc < 2 ^ 64 - 1) :
    deserializeTicket (pinnedCfg maxAlloc) [10, 0xff, 0xff, 0xff, 0xff, 0xff, 0xff, 0xff, 0xff, 0xff] = .panic := by
  simp [pinnedCfg, alloc_panic h]

/-- … and so does an unknown type (the parsed-types buffer `make([]byte, 0, length)`). -/
theorem C19_pinned_ticket_panics_unknown_type (maxAlloc : Nat) (h : maxAlloc < 2 ^ 64 - 1) :
    deserializeTicket (pinnedCfg maxAlloc) [99, 0xff, 0xff, 0xff, 0xff, 0xff, 0xff, 0xff, 0xff, 0xff] = .panic := by
  simp [pinnedCfg, alloc_panic h]

/-- The cap matters at the NESTED level too: were `decodeBytes` to use the uncapped `DecodeWithParsedTypes`
(top level still capped), a 12-byte ticket whose offer stream holds an unknown record declaring 2^64-1
bytes would panic in `make([]byte, 0, length)` – the outer cap bounds the nested BYTES, not the lengths
declared inside them. -/
theorem C19_nested_uncapped_with_types_panics (maxAlloc : Nat) (h : maxAlloc < 2 ^ 64 - 1) (h2 : 12 ≤ maxAlloc) :
    deserializeTicket { p2pTop := true, p2pSub := false, typesSub := true, maxAlloc := maxAlloc }
      [10, 10, 99, 0xff, 0xff, 0xff, 0xff, 0xff, 0xff, 0xff, 0xff, 0xff] = .panic := by
  simp [alloc_panic h, alloc_ok (show 10 ≤ maxAlloc by omega), readFull, maxRecordSize, deserializeOffer, decodeBytes,
    offerRecs, Pool.Gen.C15.capacityType, Pool.Gen.C15.pushAmtType, Pool.Gen.C15.leaseDurationType,
    Pool.Gen.C15.signPubKeyType, Pool.Gen.C15.sigOfferDigestType, Pool.Gen.C15.offerAutoType,
    Pool.Gen.C15.unannouncedChannelType, Pool.Gen.C15.zeroConfChannelType]
end

/-- (regenerated fact) every singular sub-message the model treats as optional is a pointer field of
the generated protobuf struct, every list a repeated field, every map a map. -/
theorem C19_model_fields_match_pb : ∀ f ∈ modelFields, f ∈ Pool.Gen.C19.pbFields := by decide +kernel

/-- (regenerated facts) the nil tests and the reject-by-raw-ID call are present in the current source -/
theorem C19_repo_checks_present :
    repoRpcCfg.nilChecks = true ∧ repoRpcCfg.rejectByRawID = true ∧ repoRpcCfg.signNilCheck = true :=
  ⟨rfl, rfl, rfl⟩

/-- (regenerated fact) The model treats every parser / decoder as a function of its input alone.  That is
what the source does: in the intra-package call graphs of `ParseRPCBatch` … `ParseRPCSign` (package order)
and of `DecodeString`, `DeserializeTicket`, `EncodeToString`, `SerializeTicket` (package sidecar) no function
assigns to, indexes into, deletes from or takes the address of a package-level variable – so the two handler
goroutines of a daemon (rpcServer and SidecarAcceptor) can be inside the parsers at the same time without a
data race (a concurrent map access is a fatal, unrecoverable runtime error).  The call graphs contain every
function the model mirrors. -/
theorem C19_parsers_touch_no_package_state :
    Pool.Gen.C19.parserStateWrites = [] ∧
    -- the only package-level variable the order parsers mention at all is the constant zero nonce
    Pool.Gen.C19.orderParseVars = ["ZeroNonce : Nonce"] ∧
    (∀ f ∈ ["ParseRPCBatch", "ParseRPCMatchedOrders", "ParseRPCServerAsk", "ParseRPCServerBid",
             "ParseRPCServerOrder", "parseNodeAddrs", "ParseRPCSign"], f ∈ Pool.Gen.C19.orderParseCallGraph) ∧
    (∀ f ∈ ["DecodeString", "DeserializeTicket", "deserializeOffer", "deserializeRecipient", "deserializeOrder",
             "deserializeExecution", "decodeBytes", "DSig", "DBytes8"], f ∈ Pool.Gen.C19.sidecarCodecCallGraph) := by
  decide +kernel

/-- (regenerated fact) "Never fails to terminate" on the reject paths: the model's handlers are straight-line
code after parsing.  In the source the only way such code can block forever is re-locking a non-reentrant
`sync.Mutex`: no method of `SidecarAcceptor` or `rpcServer` calls – between a `Lock()` of one of its
receiver's mutexes and the matching `Unlock()` (to the end of the function when deferred) – a sibling method
that (transitively) locks the same mutex.  (`handleServerMessage` holds the acceptor's embedded mutex, the
helpers it reaches lock `pendingSidecarOrdersMtx` only.) -/
theorem C19_handlers_never_relock_a_held_mutex :
    Pool.Gen.C19.relockSites = [] ∧
    "SidecarAcceptor.handleServerMessage locks recv" ∈ Pool.Gen.C19.methodLocks ∧
    "SidecarAcceptor.getSidecarAsOrder locks recv.pendingSidecarOrdersMtx" ∈ Pool.Gen.C19.methodLocks := by
  decide +kernel

/-- any sub-message absent, any key / hex / address / tx malformed -/
theorem C19_parse_total (m : OrderMatchPrepare) : parseRPCBatch repoRpcCfg m ≠ .panic :=
  parseRPCBatch_ne_panic repoRpcCfg C19_repo_checks_present.1 m

/-- **Go map iteration order is irrelevant for the outcome class.**  `ParseRPCBatch` ranges over the Go maps
`MatchedMarkets` and (per market) `MatchedOrders` in a random order; the model lists the entries in some
order.  Each loop is `ok` exactly when every entry is fine, and with nil-checked parsers no entry can panic: this
theorem is the loop over the markets, the next one the loop over the orders of one market. -/
theorem C19_parse_class_order_independent (l l' : List (Nat × MatchedMarket)) (hp : l.Perm l') :
    (parseMarkets repoRpcCfg l).cls = (parseMarkets repoRpcCfg l').cls :=
  cls_perm (parseMarkets_ok_iff _) (parseMarkets_ne_panic _ C19_repo_checks_present.1) hp

theorem C19_parse_class_order_independent_orders (dur : Nat) (l l' : List (Bytes × MatchedOrder)) (hp : l.Perm l') :
    (parseOrders repoRpcCfg dur l).cls = (parseOrders repoRpcCfg dur l').cls :=
  cls_perm (parseOrders_ok_iff _ dur) (parseOrders_ne_panic _ C19_repo_checks_present.1 dur) hp

/-- the same for the `ServerNonces` map of `ParseRPCSign` -/
theorem C19_sign_class_order_independent (l l' : List (Bytes × Bytes)) (hp : l.Perm l') :
    (parseNonces l).cls = (parseNonces l').cls :=
  cls_perm parseNonces_ok_iff parseNonces_ne_panic hp

example : ([(1, (⟨[]⟩ : MatchedMarket)), (2, ⟨[]⟩)] : List (Nat × MatchedMarket)).Perm [(2, ⟨[]⟩), (1, ⟨[]⟩)] :=
  List.Perm.swap _ _ _

/-- A parse error is answerable: both handlers hand a reject carrying the message's batch ID to the auctioneer client. -/
theorem C19_reject_answerable (m : OrderMatchPrepare) (e : PErr) (h : parseRPCBatch repoRpcCfg m = .err e) :
    handlePrepare repoRpcCfg m = .reject m.batchId ∧ acceptorHandlePrepare repoRpcCfg m = .reject m.batchId := by
  unfold handlePrepare acceptorHandlePrepare
  rw [h, C19_repo_checks_present.2.1]
  exact ⟨rfl, rfl⟩

/-- a wire-decodable prepare message whose only matched ask has no `Ask` sub-message -/
def witnessAbsentAsk : OrderMatchPrepare :=
  { matchedMarkets := [(2016, { matchedOrders := [([0x30, 0x30], { matchedBids := [], matchedAsks := [{ ask := none }] })] })],
    chargedAccounts := [], executionFee := none, batchTxOK := false, batchId := [] }

example : parseRPCBatch repoRpcCfg witnessAbsentAsk = .err .nilMsg := by rfl
example : handlePrepare repoRpcCfg witnessAbsentAsk = .reject [] := by rfl

theorem C19_prepare_handlers_total (m : OrderMatchPrepare) :
    handlePrepare repoRpcCfg m ≠ .panic ∧ acceptorHandlePrepare repoRpcCfg m ≠ .panic := by
  have hp := C19_parse_total m
  unfold handlePrepare acceptorHandlePrepare
  rw [C19_repo_checks_present.2.1]
  cases h : parseRPCBatch repoRpcCfg m with
  | ok u => cases u; simp
  | err e => simp
  | panic => exact absurd h hp

theorem C19_sign_total (m : OrderMatchSignBegin) : parseRPCSign m ≠ .panic := parseNonces_ne_panic _

theorem C19_sign_handlers_total (pending : Option Bytes) (m : OrderMatchSignBegin) :
    handleSign repoRpcCfg pending m ≠ .panic ∧ acceptorHandleSign repoRpcCfg pending m ≠ .panic := by
  have hs := C19_sign_total m
  unfold handleSign acceptorHandleSign
  rw [C19_repo_checks_present.2.2]
  cases pending with
  | none => simp
  | some id =>
    simp only [Option.isNone_some, Bool.and_false, Bool.false_eq_true, if_false]
    constructor
    · cases h : parseRPCSign m with
      | ok u => cases u; simp
      | err e => simp [sendRejectBatch]
      | panic => exact absurd h hs
    · split <;> simp

/-- a sign message that arrives while no batch is pending is rejected by its own batch ID -/
example : handleSign repoRpcCfg none { batchId := [2], serverNonces := [], prevOutputs := 0 } = .reject [2] := by rfl

/-- pinned rpc_parse.go: the absent `Ask` is dereferenced -/
theorem C19_pinned_parse_panics : parseRPCBatch pinnedRpcCfg witnessAbsentAsk = .panic := by rfl

/-- pinned rpcserver.go: EVERY parse error ends in `sendRejectBatch(nil, err)`, a nil dereference -/
theorem C19_pinned_reject_panics (m : OrderMatchPrepare) (e : PErr) (h : parseRPCBatch pinnedRpcCfg m = .err e) :
    handlePrepare pinnedRpcCfg m = .panic := by
  unfold handlePrepare
  rw [h]
  rfl

/-- the hypothesis of `C19_pinned_reject_panics` is met by the empty prepare message (batch TX missing) -/
example : parseRPCBatch pinnedRpcCfg
    { matchedMarkets := [], chargedAccounts := [], executionFee := none, batchTxOK := false, batchId := [] }
    = .err .tx := by rfl

/-- pinned Sign branches: a sign message without a pending batch dereferences nil in both handlers -/
theorem C19_pinned_sign_panics (m : OrderMatchSignBegin) :
    acceptorHandleSign pinnedRpcCfg none m = .panic ∧
    (parseRPCSign m ≠ .panic → handleSign pinnedRpcCfg none m = .panic) := by
  refine ⟨rfl, fun _ => ?_⟩
  -- whatever `ParseRPCSign` returns, the next step uses the nil batch
  unfold handleSign
  cases parseRPCSign m <;> rfl

/-- C19 as stated: every ticket byte string, every prepare and sign message, every pending-batch state:
a value or an error answered by a reject; never a panic; termination is structural (fuel ≤ len+1). -/
def C19_full_statement : Prop :=
  (∀ maxAlloc, 65535 ≤ maxAlloc → ∀ b, deserializeTicket (repoCfg maxAlloc) b ≠ .panic) ∧
  (∀ (H : Bytes → Bytes), (∀ x, 4 ≤ (H x).length) → ∀ maxAlloc, 65535 ≤ maxAlloc → ∀ s : Bytes, s.length ≤ maxAlloc →
      decodeString H (repoCfg maxAlloc) s ≠ .panic) ∧
  (∀ m, parseRPCBatch repoRpcCfg m ≠ .panic) ∧
  (∀ m e, parseRPCBatch repoRpcCfg m = .err e →
      handlePrepare repoRpcCfg m = .reject m.batchId ∧ acceptorHandlePrepare repoRpcCfg m = .reject m.batchId) ∧
  (∀ m, parseRPCSign m ≠ .panic) ∧
  (∀ p m, handleSign repoRpcCfg p m ≠ .panic ∧ acceptorHandleSign repoRpcCfg p m ≠ .panic)

theorem C19_full : C19_full_statement :=
  ⟨C19_ticket_total, C19_string_total, C19_parse_total, C19_reject_answerable, C19_sign_total, C19_sign_handlers_total⟩

end Pool.C19
