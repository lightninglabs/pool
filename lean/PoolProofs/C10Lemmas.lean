import PoolModel.C10Snapshot
/-! The round-trip notion of C10: `Reads d bs a` – decoder `d` reads `a` back from the bytes `bs`, whatever follows –
closed under sequencing (`bind`), repetition (`readN`; `repeatDec` with a budget) and the by-name field lists
(`fields_cons`); `Ser.ReadBy` is the same for a serialiser that may fail. -/
namespace Pool.C10

@[simp] theorem bind_apply (d : Dec α) (f : α → Dec β) (s : Bytes) :
    (d >>= f) s = match d s with
      | .ok a r => f a r
      | .err => .err
      | .panic => .panic := rfl

@[simp] theorem pure_apply (a : α) (s : Bytes) : (pure a : Dec α) s = .ok a s := rfl
@[simp] theorem fail_apply (s : Bytes) : (Dec.fail : Dec α) s = .err := rfl
@[simp] theorem panic_apply (s : Bytes) : (Dec.panic : Dec α) s = .panic := rfl

/-- Reducible, so that `rw` and `simp` take a proof of it for the equation it is. -/
@[reducible] def Reads (d : Dec α) (bs : Bytes) (a : α) : Prop := ∀ rest, d (bs ++ rest) = .ok a rest

theorem Reads.whole {d : Dec α} {bs : Bytes} {a : α} (h : Reads d bs a) : d bs = .ok a [] := by
  have := h []
  rwa [List.append_nil] at this

theorem Reads.pure_nil (a : α) : Reads (pure a) [] a := fun _ => rfl

theorem Reads.bind {d : Dec α} {f : α → Dec β} {bs cs : Bytes} {a : α} {b : β}
    (h : Reads d bs a) (hf : Reads (f a) cs b) : Reads (d >>= f) (bs ++ cs) b := by
  intro rest
  rw [bind_apply, List.append_assoc, h]
  exact hf rest

theorem Reads.bind_nil {d : Dec α} {f : α → Dec β} {bs : Bytes} {a : α} {b : β}
    (h : Reads d bs a) (hf : Reads (f a) [] b) : Reads (d >>= f) bs b := by
  have := h.bind hf
  rwa [List.append_nil] at this

theorem Reads.map {d : Dec α} {bs : Bytes} {a : α} (h : Reads d bs a) (g : α → β) :
    Reads (do let v ← d; pure (g v)) bs (g a) := h.bind_nil (.pure_nil _)

theorem Reads.take {bs : Bytes} {n : Nat} (h : bs.length = n) : Reads (take n) bs bs := by
  intro rest
  unfold C10.take  -- in a declaration named `Reads.…` the bare `take` (like `readN`, `bind`, `map`) is the lemma
  have : n ≤ (bs ++ rest).length := by rw [List.length_append]; omega
  rw [if_pos this, List.take_left' h, List.drop_left' h]

theorem Reads.readN {d : Dec β} {enc : α → Bytes} {f : α → β} {xs : List α}
    (h : ∀ x ∈ xs, Reads d (enc x) (f x)) : Reads (readN d xs.length) (xs.map enc).flatten (xs.map f) := by
  induction xs with
  | nil => exact .pure_nil _
  | cons x xs ih =>
    exact (h x List.mem_cons_self).bind ((ih fun y hy => h y (List.mem_cons_of_mem _ hy)).map _)

theorem Reads.readN_id {d : Dec α} {enc : α → Bytes} {xs : List α} (h : ∀ x ∈ xs, Reads d (enc x) x) :
    Reads (C10.readN d xs.length) (xs.map enc).flatten xs := by
  have := Reads.readN (f := id) h
  rwa [List.map_id] at this

theorem Reads.repeatDec {α β : Type} {d : Nat → Dec (β × Nat)} {enc : α → Bytes} {f : α → β} {cost : α → Nat}
    {l : List α} (hd : ∀ a ∈ l, ∀ s, cost a ≤ s → Reads (d s) (enc a) (f a, s - cost a)) {s : Nat}
    (hs : (l.map cost).sum ≤ s) :
    Reads (C10.repeatDec d l.length s) (l.map enc).flatten (l.map f, s - (l.map cost).sum) := by
  induction l generalizing s with
  | nil => exact .pure_nil _
  | cons a l ih =>
    simp only [List.map_cons, List.sum_cons] at hs ⊢
    rw [← Nat.sub_sub]
    exact (hd a List.mem_cons_self s (by omega)).bind
      ((ih (fun x hx => hd x (List.mem_cons_of_mem _ hx)) (by omega)).map _)

theorem Reads.fields_nil {tbl : String → Option (FieldCodec R)} {a r : R} :
    Reads (decFields tbl [] r) (encFields tbl [] a) r := .pure_nil r

/-- one element, `w` in the writer's list and `n` in the reader's (`uint8(rawState)` / `rawState`), read into `r` -/
theorem Reads.fields_cons {tbl : String → Option (FieldCodec R)} {a r r' r'' : R} {w n : String}
    {ws ns : List String} {cw cn : FieldCodec R} (hw : tbl w = some cw) (hn : tbl n = some cn)
    (h : Reads (cn.dec r) (cw.enc a) r') (ht : Reads (decFields tbl ns r') (encFields tbl ws a) r'') :
    Reads (decFields tbl (n :: ns) r) (encFields tbl (w :: ws) a) r'' := by
  simp only [encFields, decFields, hw, hn]
  exact h.bind ht

/-- two written elements that the reader takes as one (`b.ExecutionFee`, written as base fee and fee rate) -/
theorem Reads.fields_cons₂ {tbl : String → Option (FieldCodec R)} {a r r' r'' : R} {w₁ w₂ n : String}
    {ws ns : List String} {c₁ c₂ cn : FieldCodec R} (h₁ : tbl w₁ = some c₁) (h₂ : tbl w₂ = some c₂)
    (hn : tbl n = some cn) (h : Reads (cn.dec r) (c₁.enc a ++ c₂.enc a) r')
    (ht : Reads (decFields tbl ns r') (encFields tbl ws a) r'') :
    Reads (decFields tbl (n :: ns) r) (encFields tbl (w₁ :: w₂ :: ws) a) r'' := by
  simp only [encFields, decFields, h₁, h₂, hn, ← List.append_assoc (c₁.enc a)]
  exact h.bind ht

def Ser.ReadBy (s : Ser) (d : Dec α) (a : α) : Prop := ∃ b, s = .ok b ∧ Reads d b a

theorem Ser.ReadBy.ok {d : Dec α} {b : Bytes} {a : α} (h : Reads d b a) : (Ser.ok b).ReadBy d a := ⟨b, rfl, h⟩

theorem Ser.ReadBy.append {s s' : Ser} {d : Dec α} {f : α → Dec β} {a : α} {b : β}
    (h : s.ReadBy d a) (hf : s'.ReadBy (f a) b) : (s.append s').ReadBy (d >>= f) b := by
  obtain ⟨bs, rfl, h⟩ := h
  obtain ⟨cs, rfl, hf⟩ := hf
  exact ⟨bs ++ cs, rfl, h.bind hf⟩

theorem Ser.ReadBy.map {s : Ser} {d : Dec α} {a : α} (h : s.ReadBy d a) (g : α → β) :
    s.ReadBy (do let v ← d; pure (g v)) (g a) := by
  obtain ⟨bs, rfl, h⟩ := h
  exact ⟨bs, rfl, h.map g⟩

theorem Ser.ReadBy.serConcat {d : Dec α} {ser : α → Ser} {xs : List α} (h : ∀ x ∈ xs, (ser x).ReadBy d x) :
    (serConcat (xs.map ser)).ReadBy (readN d xs.length) xs := by
  induction xs with
  | nil => exact .ok (.pure_nil _)
  | cons x xs ih =>
    exact (h x List.mem_cons_self).append ((ih fun y hy => h y (List.mem_cons_of_mem _ hy)).map _)

@[simp] theorem leEnc_length (n v : Nat) : (leEnc n v).length = n := by
  induction n generalizing v with
  | zero => rfl
  | succ n ih => simp [leEnc, ih]

theorem leDec_leEnc (n v : Nat) (h : v < 256 ^ n) : leDec (leEnc n v) = v := by
  induction n generalizing v with
  | zero => simp [leEnc, leDec]; omega
  | succ n ih =>
    simp only [leEnc, leDec]
    have h1 : v / 256 < 256 ^ n := by
      rw [Nat.div_lt_iff_lt_mul (by decide)]; rw [Nat.pow_succ] at h; exact h
    rw [ih _ h1, UInt8.toNat_ofNat']
    have : v % 256 % 2 ^ 8 = v % 256 := Nat.mod_eq_of_lt (by omega)
    omega

@[simp] theorem beEnc_length (n v : Nat) : (beEnc n v).length = n := by simp [beEnc]

theorem beDec_beEnc (n v : Nat) (h : v < 256 ^ n) : beDec (beEnc n v) = v := by
  simp [beDec, beEnc, leDec_leEnc n v h]

theorem readLE_rt {n v : Nat} (h : v < 256 ^ n) : Reads (readLE n) (leEnc n v) v := by
  have := (Reads.take (leEnc_length n v)).map leDec
  rwa [leDec_leEnc n v h] at this

theorem readBE_rt {n v : Nat} (h : v < 256 ^ n) : Reads (readBE n) (beEnc n v) v := by
  have := (Reads.take (beEnc_length n v)).map beDec
  rwa [beDec_beEnc n v h] at this

theorem readBE_byte (b : UInt8) : Reads (readBE 1) [b] b.toNat := fun _ => by
  simp [readBE, C10.take, beDec, leDec]

theorem readLE_byte (b : UInt8) : Reads (readLE 1) [b] b.toNat := fun _ => by
  simp [readLE, C10.take, leDec]

/-- the shape of the two var-int formats: `rd` reads the marker byte `m`; on it the decoder `f` picks (`hpick`, by
evaluation at the call sites) a reader `d` of the bytes that follow and a canonicity test `g` -/
theorem Reads.marked {rd d : Dec Nat} {m : UInt8} {bs : Bytes} {v : Nat} {f g : Nat → Dec Nat}
    (hm : Reads rd [m] m.toNat) (hpick : f m.toNat = d >>= g) (hd : Reads d bs v) (hpass : g v = pure v) :
    Reads (rd >>= f) (m :: bs) v :=
  hm.bind (hpick ▸ hd.bind_nil (hpass ▸ .pure_nil v))

theorem readU8_rt {v : Nat} (h : WFu8 v) : Reads readU8 (encU8 v) v := readBE_rt (n := 1) h
theorem readU16_rt {v : Nat} (h : WFu16 v) : Reads readU16 (encU16 v) v := readBE_rt (n := 2) h
theorem readU32_rt {v : Nat} (h : WFu32 v) : Reads readU32 (encU32 v) v := readBE_rt (n := 4) h
theorem readU64_rt {v : Nat} (h : WFu64 v) : Reads readU64 (encU64 v) v := readBE_rt (n := 8) h

theorem readBool_enc (b : Bool) (rest : Bytes) : readBool (encBool b ++ rest) = .ok b rest := by
  cases b <;> rfl

theorem validPubKey_length {b : Bytes} (h : validPubKey b = true) : b.length = 33 := by
  unfold validPubKey at h
  cases b with
  | nil => simp at h
  | cons f xs =>
    simp only [Bool.and_eq_true, beq_iff_eq] at h
    exact h.1.1

theorem readPubKey_rt {b : Bytes} (h : validPubKey b = true) : Reads readPubKey b b :=
  (Reads.take (validPubKey_length h)).bind_nil (by rw [if_pos h]; exact .pure_nil b)

theorem readKeyLoc_rt {k : KeyLoc} (h : k.WF) : Reads readKeyLoc (encKeyLoc k) k :=
  (readU32_rt h.1).bind ((readU32_rt h.2).map _)

theorem readKeyDesc_rt {k : KeyDesc} (h : k.WF) : Reads readKeyDesc (encKeyDesc k) k :=
  (readKeyLoc_rt h.1).bind ((readPubKey_rt h.2).map _)

theorem readOutPoint_rt {o : OutPoint} (h : o.WF) : Reads readOutPoint (encOutPoint o) o :=
  (Reads.take h.1).bind ((readU16_rt h.2).map _)

end Pool.C10
