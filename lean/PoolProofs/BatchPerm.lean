import PoolProofs.BatchLemmas
/-! Order independence: the acceptance decision does not depend on the order in which Go iterates the
`MatchedOrders` map.  `Accepted` mentions the order `l` only through `∀ nm ∈ l` and through the tallies, and a tally
balance, though computed by wrapped additions in the order of the charges, does not depend on that order. -/
namespace Pool.Batch

theorem foldW_comm (δ δ' : Their → Int) (a : Int) (ts ts' : List Their) :
    foldW δ' (foldW δ a ts) ts' = foldW δ (foldW δ' a ts') ts := by
  simp only [foldW_eq]
  split <;> split <;> simp only [w64_add_left, Int.add_right_comm]

theorem tallyAt_perm (env : Env) (b : Batch) (k : Key) {cs cs' : List (Ours × List Their)} (h : cs.Perm cs') :
    tallyAt env b k cs = tallyAt env b k cs' := by
  have hbal (v : Int) : tallyBal env b v cs = tallyBal env b v cs' := h.foldl_eq' (fun _ _ _ _ _ => foldW_comm ..) v
  exact Option.ext fun e => by
    simp only [tallyAt_eq_some, tally, hbal, (h.map (·.2.length)).sum_nat, ne_eq, ← List.length_eq_zero_iff,
      h.length_eq]

theorem Accepted.perm {env : Env} {rules : Rules} {b : Batch} {best : UInt32} {l l2 : List (Nonce × List Their)}
    (hp : l.Perm l2) (h : Accepted env rules b best l) : Accepted env rules b best l2 :=
  ⟨h.version, h.height, fun nm hnm => h.orders nm (hp.mem_iff.mpr hnm),
    (funext fun k => tallyAt_perm env b k (hp.filterMap _)) ▸ h.diffs⟩

/-- acceptance of `OrderMatchValidate` when both of its loops iterate in the orders `l`, `l2` -/
def acceptsWith (env : Env) (rules : Rules) (b : Batch) (best : UInt32) (l l2 : List (Nonce × List Their)) : Bool :=
  isOk (verifyWith env rules b best l) && isOk (nodeFilter env l2)

theorem nodeFilter_perm (env : Env) {l l2 : List (Nonce × List Their)} (hp : l.Perm l2) :
    isOk (nodeFilter env l) = isOk (nodeFilter env l2) := by
  rw [Bool.eq_iff_iff, isOk_unit, isOk_unit, nodeFilter_eq_ok, nodeFilter_eq_ok]
  simp only [hp.mem_iff]

theorem verifyWith_perm (env : Env) (rules : Rules) (b : Batch) (best : UInt32)
    {l l2 : List (Nonce × List Their)} (hp : l.Perm l2) :
    isOk (verifyWith env rules b best l) = isOk (verifyWith env rules b best l2) := by
  rw [Bool.eq_iff_iff, verifyWith_isOk, verifyWith_isOk]
  exact ⟨.perm hp, .perm hp.symm⟩

end Pool.Batch
