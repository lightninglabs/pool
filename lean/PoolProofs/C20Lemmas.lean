import PoolProofs.C08Lemmas
/-! Recovery adds only store writes to the effect trace, and stores the derived secret. -/
namespace Pool.C20
open Pool.C08

/-- every effect of `s'` is an old one or a store write: no `fund` (SendOutputs), no `publish` -/
def OnlyWrites (s s' : AState) : Prop := ∀ e ∈ s'.trace, e ∈ s.trace ∨ ∃ b, e = Effect.write b

protected theorem OnlyWrites.write {s s' : AState} (h : OnlyWrites s s') (a : Acct) : OnlyWrites s (write s' a) := by
  intro e he
  rcases List.mem_append.mp he with he | he
  · exact h e he
  · exact Or.inr ⟨_, List.mem_singleton.mp he⟩

theorem OnlyWrites.storeInv (s : AState) : StoreInv (OnlyWrites s) :=
  ⟨fun hs h e he => h e (hs.trace ▸ he), fun h => handleExpiry_cases _ (fun _ => h) fun _ _ _ _ => h.write _⟩

/-- states `unmarshallServerRecoveredAccount` can produce -/
def reportable : State → Bool
  | .initiated | .closed | .pendingUpdate | .pendingBatch | .expired | .expiredPendingUpdate => true
  | _ => false

protected theorem OnlyWrites.resumeRest {s s' : AState} (h : OnlyWrites s s') (a : Acct)
    (hst : a.state ≠ .pendingClosed) : OnlyWrites s (resumeRest s' a false).1 := by
  refine (OnlyWrites.storeInv s).resumeRest h a false fun t ht => ?_
  -- a rebroadcast happens on restart, or for a pending-closed record
  rcases ht.due with ⟨_, hr⟩ | hpc
  · cases hr
  · exact absurd hpc hst

theorem OnlyWrites.resume_recovery {s s' : AState} (h : OnlyWrites s s') (a : Acct) (fee : Bool)
    (f : Option (Nat × Nat)) (hst : a.state ≠ .pendingClosed) : OnlyWrites s (resume s' a false true fee f).1 := by
  refine resume_cases (P := fun x => OnlyWrites s x.1) s' a false true fee f
    (fun _ => h.resumeRest a hst) (fun _ _ => h) (fun _ _ _ _ => h.write _) fun _ s'' t idx hf _ => ?_
  -- on recovery the funding transaction is located, never created
  cases hf with
  | located => exact (h.write _).resumeRest _ fun e => (nomatch e)
  | created _ _ hr => cases hr

def SecOK (x : Nat) (s : AState) : Prop := ∀ b, s.acct = some b → b.secret = x

protected theorem SecOK.write {x : Nat} (s : AState) (a : Acct) (ha : a.secret = x) : SecOK x (write s a) := by
  intro b hb
  obtain rfl : a.stored = b := Option.some.inj hb
  unfold Acct.stored; split <;> exact ha

theorem SecOK.storeInv (x : Nat) : StoreInv (SecOK x) :=
  ⟨fun hs h b hb => h b (hs.acct ▸ hb),
   fun h => handleExpiry_cases _ (fun _ => h) fun a _ ha _ => SecOK.write _ _ (h a ha)⟩

protected theorem SecOK.resumeRest {x : Nat} {s : AState} (h : SecOK x s) (a : Acct) (onRestart : Bool) :
    SecOK x (resumeRest s a onRestart).1 :=
  (SecOK.storeInv x).resumeRest h a onRestart fun t _ b hb => h b ((maybeBroadcast_acct s t).symm.trans hb)

protected theorem SecOK.resume {x : Nat} {s : AState} (h : SecOK x s) (a : Acct) (ha : a.secret = x)
    (onRestart onRecovery fee : Bool) (f : Option (Nat × Nat)) : SecOK x (resume s a onRestart onRecovery fee f).1 :=
  resume_cases (P := fun y => SecOK x y.1) s a onRestart onRecovery fee f (fun _ => SecOK.resumeRest h a onRestart)
    (fun _ _ => h) (fun _ _ _ _ => SecOK.write s _ ha)
    -- `by exact`: elaborated last, when the record written is known from the goal (a plain `ha` makes it `a`)
    fun _ _ _ _ _ _ => SecOK.resumeRest (SecOK.write _ _ (by exact ha)) _ _

end Pool.C20
