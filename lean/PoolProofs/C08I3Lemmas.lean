import PoolProofs.C08Lemmas
/-! I3 (every publish is preceded by the store write of a record carrying the transaction) as an
invariant over all histories.  Depends on I1 for the pending-open rebroadcast on restart. -/
namespace Pool.C08

/-- `w`: the transactions written so far -/
def chk : List Tx → List Effect → Bool
  | _, [] => true
  | w, .write a :: r => chk (a.latestTx.toList ++ w) r
  | w, .publish t :: r => w.contains t && chk w r
  | w, .fund _ :: r => chk w r

def wr : List Tx → List Effect → List Tx
  | w, [] => w
  | w, .write a :: r => wr (a.latestTx.toList ++ w) r
  | w, .publish _ :: r => wr w r
  | w, .fund _ :: r => wr w r

theorem chk_append (w : List Tx) (l l' : List Effect) : chk w (l ++ l') = (chk w l && chk (wr w l) l') := by
  induction l generalizing w with
  | nil => simp [chk, wr]
  | cons e l ih => cases e <;> simp [chk, wr, ih, Bool.and_assoc]

theorem wr_append (w : List Tx) (l l' : List Effect) : wr w (l ++ l') = wr (wr w l) l' := by
  induction l generalizing w with
  | nil => simp [wr]
  | cons e l ih => cases e <;> simp [wr, ih]

theorem mem_wr_iff {t : Tx} {w : List Tx} {l : List Effect} :
    t ∈ wr w l ↔ t ∈ w ∨ ∃ a, Effect.write a ∈ l ∧ a.latestTx = some t := by
  induction l generalizing w with
  | nil => simp [wr]
  | cons e l ih => cases e <;> simp [wr, ih, or_and_right, exists_or, or_assoc, or_left_comm]

theorem mem_wr_of_mem {t : Tx} {w : List Tx} (l : List Effect) (h : t ∈ w) : t ∈ wr w l :=
  mem_wr_iff.mpr (Or.inl h)

/-- **I3** (`ok`), strengthened for the induction: the stored record's transaction has been written -/
structure Inv3 (s : AState) : Prop where
  ok : chk [] s.trace = true
  recW : ∀ a t, s.acct = some a → a.latestTx = some t → t ∈ wr [] s.trace

theorem wrote_self (s : AState) {a : Acct} {t : Tx} (h0 : a.state ≠ .initiated) (h1 : a.state ≠ .canceled)
    (ht : a.latestTx = some t) : t ∈ wr [] (write s a).trace :=
  mem_wr_iff.mpr (Or.inr ⟨a.stored, List.mem_append_right _ List.mem_cons_self, (stored_of_live h0 h1).symm ▸ ht⟩)

theorem Inv3.append {s s' : AState} (i : Inv3 s) (l : List Effect) (htr : s'.trace = s.trace ++ l)
    (hok : chk (wr [] s.trace) l = true)
    (hrec : ∀ a t, s'.acct = some a → a.latestTx = some t → t ∈ wr (wr [] s.trace) l) : Inv3 s' :=
  ⟨by rw [htr, chk_append, i.ok, hok]; rfl, fun a t ha ht => by rw [htr, wr_append]; exact hrec a t ha ht⟩

protected theorem Inv3.write {s : AState} (i : Inv3 s) (a : Acct) : Inv3 (write s a) :=
  i.append [.write a.stored] rfl rfl fun b t hb ht => by
    obtain rfl : a.stored = b := Option.some.inj hb
    simp [wr, ht]

theorem Inv3.fund {s : AState} (i : Inv3 s) (w : List Tx) (o : TxOut) :
    Inv3 { s with wallet := w, trace := s.trace ++ [.fund o] } :=
  i.append [.fund o] rfl rfl i.recW

protected theorem Inv3.maybeBroadcast {s : AState} (i : Inv3 s) (t : Tx) (ht : t ∈ wr [] s.trace) :
    Inv3 (maybeBroadcast s t) := by
  unfold maybeBroadcast
  split
  · exact i.append [.publish t] rfl (by simp [chk, ht]) i.recW
  · exact i

theorem Inv3.storeInv : StoreInv Inv3 where
  same hs i := ⟨hs.trace ▸ i.ok, fun a t ha ht => hs.trace ▸ i.recW a t (hs.acct ▸ ha) ht⟩
  onExpiry {s} i := handleExpiry_cases s (fun _ => i) fun _ _ _ _ => i.write _

protected theorem Inv3.watchers {s : AState} (i : Inv3 s) (a : Acct) (acts : List String) : Inv3 (watchers s a acts) :=
  Inv3.storeInv.watchers i a acts

/-- the rebroadcast publishes the record's own transaction (pending-open: by `h2`, which I1 gives), and `h1` says it
has been written -/
protected theorem Inv3.resumeRest {s : AState} (i : Inv3 s) (a : Acct) (onRestart : Bool)
    (h1 : (a.state = .pendingOpen ∨ a.state = .pendingClosed) → ∀ t, a.latestTx = some t → t ∈ wr [] s.trace)
    (h2 : a.state = .pendingOpen → ∃ t, a.latestTx = some t ∧ t.id = a.outpoint.txid) :
    Inv3 (resumeRest s a onRestart).1 := by
  refine Inv3.storeInv.resumeRest i a onRestart fun t ht => i.maybeBroadcast t (h1 (ht.due.imp_left And.left) t ?_)
  rcases ht.tx with ht | ⟨hpo, hno⟩
  · exact ht
  · obtain ⟨t0, ht0, hid⟩ := h2 hpo
    exact absurd hid (hno t0 ht0)

theorem live_pendingOpen : State.live .pendingOpen = true := rfl

protected theorem Inv3.resume {s : AState} (i : Inv3 s) (a : Acct) (r1 r2 fee : Bool) (f : Option (Nat × Nat))
    (h1 : (a.state = .pendingOpen ∨ a.state = .pendingClosed) → ∀ t, a.latestTx = some t → t ∈ wr [] s.trace)
    (h2 : a.state = .pendingOpen → ∃ t, a.latestTx = some t ∧ t.id = a.outpoint.txid) :
    Inv3 (resume s a r1 r2 fee f).1 := by
  refine resume_cases (P := fun x => Inv3 x.1) s a r1 r2 fee f (fun _ => i.resumeRest a r1 h1 h2) (fun _ _ => i)
    (fun _ _ _ _ => i.write _) fun _ s' t idx hf _ => ?_
  have i' : Inv3 s' := by
    cases hf with
    | located => exact i
    | created => exact i.fund _ _
  exact Inv3.resumeRest (i'.write _) _ _ (fun _ _ => wrote_self _ nofun nofun) fun _ => ⟨t, rfl, rfl⟩

theorem Inv3.spendAccount {s : AState} (i : Inv3 s) {a : Acct} {t : Tx} (h0 : a.state ≠ .initiated)
    (h1 : a.state ≠ .canceled) (ht : a.latestTx = some t) :
    Inv3 (maybeBroadcast (write s a) t) :=
  Inv3.maybeBroadcast (i.write a) t (wrote_self s h0 h1 ht)

protected theorem Inv3.modify {s : AState} (i : Inv3 s) (k : Kind) (m : ModArgs) : Inv3 (modify s k m).1 := by
  refine modify_cases (P := fun x => Inv3 x.1) s k m i fun a a' t _ _ hs ht _ _ _ => ?_
  have hw := i.spendAccount (by simp [hs]) (by simp [hs]) ht
  exact ⟨hw, Inv3.storeInv.watchExpiration hw _⟩

/-- rests on I1: resuming the stored record needs it of the state resumed in (`Inv3.resume`, `h2`) -/
theorem Inv3.handlerInv : HandlerInv Inv3 fun s => Inv1 s ∧ Inv3 s where
  toStoreInv := Inv3.storeInv
  onConf {s} h height :=
    handleConf_cases s height (fun _ => h.2) fun _ _ _ _ => Inv3.storeInv.handleStateOpen (h.2.write _) _
  onComplete {s} h := completeOnly_cases s (fun _ => h.2) fun _ _ => ⟨(h.2.write _).ok, (h.2.write _).recW⟩
  onSpend h _ _ _ := h.2.write _
  onResume {s a} h ha onRestart fee f :=
    h.2.resume a onRestart false fee f (fun _ t => h.2.recW a t ha) (h.1.acctOK a ha).toRecOK0.carriesTx.funding
  onModify h k m := h.2.modify k m
  onClose {s} h height t ok sg := close_cases (P := fun x => Inv3 x.1) s height t ok sg (fun _ => h.2)
    fun _ _ _ _ _ => h.2.spendAccount (by simp) (by simp) rfl
  onDropStage h := ⟨h.2.ok, h.2.recW⟩

protected theorem Inv3.step {s : AState} (i : Inv3 s) (j : Inv1 s) (op : Op) (hop : OpOK s.key op) :
    Inv3 (step s op).1 := by
  have j' := j.step op hop
  refine ((Inv1.handlerInv.and Inv3.handlerInv).step s op ⟨j, i⟩ (fun _ _ _ _ _ e => ?_) (fun g e => ?_)
    fun a known e => ?_).2
  all_goals
    subst e
    refine ⟨j', ?_⟩
  · unfold initAccount
    exact Inv3.resume (i.write _) _ _ _ _ _ (fun h => by rcases h with h | h <;> cases h) nofun
  · exact stage_cases (P := fun x => Inv3 x.1) s g i fun _ _ _ _ => ⟨i.ok, i.recW⟩
  · obtain ⟨hr, _, _⟩ := hop
    refine Inv3.resume (Inv3.write (s := { s with wallet := known }) ⟨i.ok, i.recW⟩ _) _ _ _ _ _
      (fun hst _ => ?_) hr.carriesTx.funding
    have hst : a.state = .pendingOpen ∨ a.state = .pendingClosed := hst
    exact wrote_self _ (by rcases hst with h | h <;> simp [h]) (by rcases hst with h | h <;> simp [h])

end Pool.C08
