import PoolProofs.C16LemmasBid
import PoolProofs.C16LemmasTickets
import PoolProofs.C16LemmasLive
/-! C16: sidecar auto-negotiation is safe under any delivery order and restart; one section per clause of the property.
`Reachable` = any finite action list from `init`: deliveries of any sent ticket any number of times, receive errors,
stop/restart/crash of either side at every step incl. in the middle of a handler, local cancellation or completion,
the hand-off of a received cancellation. -/
namespace Pool.C16

/-! ## (1) the provider submits at most one bid -/

/-- At most one bid is handed to the auctioneer, whichever rule the finalization branch follows (`ret`): the clause does
not depend on the repair. -/
theorem C16_at_most_one_bid_any_rule (ret : Bool) (as : List Act) (s : Sys)
    (h : runG ret init as = some s) : s.bids ≤ 1 := by
  have hi : BidInv s := runG_BidInv ret as init s rfl h
  unfold BidInv at hi
  split at hi <;> omega

theorem C16_at_most_one_bid (s : Sys) (h : Reachable s) : s.bids ≤ 1 := by
  obtain ⟨as, has⟩ := h
  exact C16_at_most_one_bid_any_rule finReturns as s has

/-- the happy path (recipient sends, provider handles: persist, submit, send+persist) -/
def happyP : List Act := [.proc false, .deliver true 0, .proc true, .proc true, .proc true]

-- non-vacuity: a bid IS submitted on the happy path, and a restarted provider that is asked again does not submit a
-- second one (the order store rejects the duplicate nonce)
example : (run init happyP).map (·.bids) = some 1 := by decide +kernel
example : (run init (happyP ++ [.restart true, .deliver true 0, .proc true])).map (·.bids) = some 1 := by
  decide +kernel
example : (run init [.proc false, .deliver true 0, .proc true, .proc true, .procCrash true 0,
    .deliver true 0, .proc true]).map (fun s => (s.bids, s.p.cur, s.p.store.state)) = some (1, 2, 2) := by decide +kernel

/-! ## (2) expecting a channel only for a validated ticket -/

/-- Every successful `ExpectChannel` of every reachable run is for a ticket that carries the provider's valid offer
signature and valid order signature over a non-zero nonce and is the ticket the recipient registered (store key). The
log entries are the recipient's (`false`); no handler of the provider makes the call (`EffOK`, `procStep_B`). -/
theorem C16_expect_only_validated (s : Sys) (h : Reachable s) :
    ∀ t, (false, Eff.expect t true) ∈ s.log → ValidSigned t :=
  fun t ht => (validSigned_iff t).2 ((reachable_InvB s h).log t ht)

/-- Step level, for ANY incoming and local ticket: a successful `ExpectChannel` happens either right after
`validateOrderedTicket` accepted that very ticket or in the "already expecting" state (re-registration after a restart),
where the code does NOT re-validate: there the system theorem above is needed. -/
theorem C16_expect_step_any_ticket (s : Sys) (cur : Nat) (l pkt t' : Ticket)
    (h : Eff.expect t' true ∈ (stepRecipient (envR s) cur (some l) (some pkt)).effs) :
    (cur = sRegistered ∧ pkt.state = sOrdered ∧ ValidSigned pkt ∧ t' = { pkt with state := sExpecting }) ∨
    cur = sExpecting := by
  rcases ROut_expect (stepRecipient_ROut s cur l pkt) h with ⟨hc, hp, hv, ht⟩ | hc
  · exact .inl ⟨hc, hp, validateOrdered_sound pkt hv, ht⟩
  · exact .inr hc

-- non-vacuity: the recipient does start expecting for the signed ordered ticket, and refuses one with a bad order signature
example : Eff.expect ⟨0, sExpecting, .valid, true, some ⟨1, .valid⟩⟩ true ∈
    (stepRecipient (envR init) sRegistered (some tRegistered)
      (some ⟨0, sOrdered, .valid, true, some ⟨1, .valid⟩⟩)).effs := by decide +kernel
example : (stepRecipient (envR init) sRegistered (some tRegistered)
      (some ⟨0, sOrdered, .valid, true, some ⟨1, .bad⟩⟩)).res = .err eValidate := by decide +kernel

/-! ## (3) persisted state never moves backwards -/

/-- In every reachable state every enabled transition leaves the persisted ticket state of BOTH sides monotone (`Mono`):
offered < registered < ordered < expecting < completed, canceled from every non-terminal state, terminal states final. -/
theorem C16_persisted_state_monotone (s : Sys) (h : Reachable s) (a : Act) (s' : Sys)
    (ha : apply s a = some s') :
    Mono s.p.store.state s'.p.store.state ∧ Mono s.r.store.state s'.r.store.state := by
  unfold apply at ha
  rw [finReturns_true] at ha
  exact (stepA s s' a (reachable_InvA s h) ha).mono

/-- … and no nil dereference of the step functions or run loops is reachable. -/
theorem C16_no_panic (s : Sys) (h : Reachable s) : s.panicked = false := (reachable_InvA s h).np

/-- Step level, ANY incoming and local ticket: the provider's handlers write "registered" only while the in-memory state
is "offered", and "expecting" only while it is "ordered"/"expecting". -/
theorem C16_provider_store_writes (s : Sys) (cur w : Nat) (l pkt : Ticket)
    (h : w ∈ writes (stepProvider (envP s) cur (some pkt) (some l)).effs) :
    (cur = sOffered ∧ w = sRegistered) ∨ ((cur = sOrdered ∨ cur = sExpecting) ∧ w = sExpecting) :=
  POut_writes (stepProvider_POut s cur pkt l) h

theorem C16_persisted_state_monotone_step (s : Sys) (cur st w : Nat) (l pkt : Ticket) (hr : pRel cur st)
    (h : w ∈ writes (stepProvider (envP s) cur (some pkt) (some l)).effs) : Mono st w :=
  (pRel_write hr (C16_provider_store_writes s cur w l pkt h)).2

example : pRel sOffered sOffered ∧
    sRegistered ∈ writes (stepProvider (envP init) sOffered (some tRegistered) (some tOffered)).effs := by
  constructor
  · unfold pRel; simp
  · decide +kernel

-- non-vacuity of the system theorem: a transition that does write (offered → registered)
example : (run init [.proc false, .deliver true 0, .proc true]).map (·.p.store.state) = some sRegistered := by
  decide +kernel

theorem C16_recipient_store_writes (s : Sys) (cur : Nat) (l pkt : Ticket) :
    ∀ w ∈ writes (stepRecipient (envR s) cur (some l) (some pkt)).effs, w = sExpecting :=
  fun _ h => ROut_writes (stepRecipient_ROut s cur l pkt) h

/-- the finalization branch writes exactly the final state, then the loop is over (repaired rule) -/
theorem C16_finalization_is_final (prov : Bool) (x : Party) (l : Ticket) (st : Nat) (o : Bool)
    (hl : x.loc = some l) :
    ∃ x' es, finStep finReturns prov x st o = (some x', es) ∧ x'.alive = false ∧ x'.quit = true ∧
      writes es = [st] := by
  refine ⟨_, _, finStep_some finReturns prov st o hl, by rw [finReturns_true]; rfl, rfl, ?_⟩
  split <;> rfl

/-! ## (4) a cancellation ends both -/

/-- In every reachable state, for either side `prov`:
(a) a side whose persisted ticket is terminal (canceled/completed) has no running negotiator (and by
    `C16_persisted_state_monotone` the ticket never changes again; `C16_terminal_ticket_not_resumed`: a restart starts
    nothing);
(b) `CancelSidecar` persists "canceled", ends the own negotiator and - if one was running and the other side may be
    listening (always for the recipient; for the provider once a recipient registered) - puts the canceled ticket into
    the other side's mailbox;
(c) a side that handles that ticket (in any state but the transient "created") goes to the in-memory state canceled
    with the finalization pending, its persisted ticket untouched;
(d) a pending finalization's hand-off is enabled, persists "canceled" and ends that side too. -/
theorem C16_cancel_ends_both (s : Sys) (h : Reachable s) (prov : Bool) :
    (isTerminal (getParty s prov).store.state = true → (getParty s prov).alive = false) ∧
    (∀ s', apply s (.cancelRPC prov) = some s' →
      (getParty s' prov).store.state = sCanceled ∧ (getParty s' prov).alive = false ∧
      ((getParty s prov).alive = true → (prov = false ∨ sRegistered ≤ (getParty s prov).cur) →
        ∃ t, t.state = sCanceled ∧ t ∈ (if prov then s'.toR else s'.toP))) ∧
    (∀ pkt s', (getParty s prov).alive = true → nextPkt (getParty s prov) = some pkt → pkt.state = sCanceled →
      (getParty s prov).cur ≠ sCreated → apply s (.proc prov) = some s' →
      (getParty s' prov).finPend = true ∧ (getParty s' prov).cur = sCanceled ∧ (getParty s' prov).alive = true ∧
      (getParty s' prov).store = (getParty s prov).store) ∧
    ((getParty s prov).alive = true → (getParty s prov).finPend = true → (getParty s prov).loopPkt = none →
      ∃ s', apply s (.fin prov) = some s' ∧ (getParty s' prov).store.state = sCanceled ∧
        (getParty s' prov).alive = false) := by
  have hA := reachable_InvA s h
  unfold apply
  rw [finReturns_true]
  refine ⟨?_, fun _ => cancelRPC_spec hA, fun _ _ => proc_cancel_msg hA, fin_spec hA⟩
  intro ht
  rw [term_iff] at ht
  cases hx : (getParty s prov).alive
  · rfl
  · have := SideRel_lt ((hA.party prov).rel hx)
    omega

/-- a side whose loop has ended handles no packet, no finalization and no delivery again -/
theorem C16_ended_side_disabled (s : Sys) (prov : Bool) (st : Nat)
    (h : (getParty s prov).alive = false) :
    apply s (.proc prov) = none ∧ apply s (.fin prov) = none ∧ apply s (.finalize prov st) = none ∧
    (∀ k, apply s (.procCrash prov k) = none) ∧ ∀ i, apply s (.deliver prov i) = none := by
  unfold apply
  simp only [applyG, h]
  refine ⟨by simp, by simp, by simp, fun k => by simp, fun i => ?_⟩
  split <;> simp

theorem C16_terminal_ticket_not_resumed (prov : Bool) (x : Party) (h : isTerminal x.store.state = true) :
    (restartParty prov x).alive = false ∧ (restartParty prov x).store = x.store :=
  ⟨by unfold restartParty; simp [h], restartParty_store prov x⟩

-- non-vacuity: cancel by the provider after the happy path; the recipient handles the message and ends as well
example : (run init (happyP ++ [.cancelRPC true, .deliver false 1, .proc false, .fin false])).map
    (fun s => (s.p.alive, s.p.store.state, s.r.alive, s.r.store.state)) =
    some (false, sCanceled, false, sCanceled) := by decide +kernel

/-- Store level (`clientdb/sidecar.go`): updating a ticket the store knows always succeeds and keeps it known, whatever
state is written and however often (a second terminal write after the bid template is gone included). This is the
assumption `updateOk` of the transition system. -/
theorem C16_update_of_known_ticket_succeeds (db : TicketDB) (state : Nat) (hasOrder nonceZero : Bool)
    (h : db.known = true) :
    (updateSidecarDB db state hasOrder nonceZero).2 = true ∧
    (updateSidecarDB db state hasOrder nonceZero).1.known = true := by
  have hr : (removeBidTemplate db nonceZero).2 = true ∧ (removeBidTemplate db nonceZero).1.known = true := by
    unfold removeBidTemplate
    repeat' split
    all_goals exact ⟨rfl, h⟩
  unfold updateSidecarDB
  simp only [h, Bool.not_true, Bool.false_eq_true, if_false]
  split
  · split <;> simp_all
  · exact ⟨rfl, h⟩

example : ((updateSidecarDB ⟨true, true, true⟩ sCanceled true false).1, sCanceled) =
    ((⟨true, true, false⟩ : TicketDB), 6) := by decide

/-! ### the rule before the repair violates (3) and (4)

With a finalization branch that does NOT return (`ret = false`, the code before the `fix:` commit), a ticket that
is already buffered in `packetChan` can be handled after the own cancellation was persisted: the provider
overwrites the canceled ticket with "expecting" and re-sends the ordered ticket.  Replayed on the real code by the
harness (`corpus/C16/cancel_race.json`). -/
def raceRun : List Act :=
  happyP ++ [.deliver true 0, .finalize true sCanceled, .proc true]

theorem C16_unrepaired_rule_false :
    (runG false init (happyP ++ [.deliver true 0, .finalize true sCanceled])).map (·.p.store.state)
      = some sCanceled ∧
    (runG false init raceRun).map (·.p.store.state) = some sExpecting ∧
    -- … while the repaired rule ends the loop: the buffered ticket is never handled
    runG true init raceRun = none := by decide +kernel

/-! ## observation: the `errors.Is(err, clientdb.ErrOrderExists)` branch

`order.manager.PrepareOrder` wraps the store's error with `%v`, so the real driver never answers `errExists`
(`C16_real_driver_never_reports_exists`); a duplicate submission is an ordinary error and the restarted provider stays in
"registered" (liveness is only claimed without restarts).  If a driver DID answer `(nil, ErrOrderExists)`, the
step would return a packet with nil tickets and the next iteration of the loop would dereference nil: -/
theorem C16_errExists_branch_panics (env : Env) (r p p' : Ticket) (hr : r.state ≠ sCanceled)
    (hs : env.submit p = (p', .errExists)) :
    (stepProvider env sRegistered (some r) (some p)).res = .ok sOrdered none none := by
  simp only [stepProvider, prov_select, provSel]
  simp [hr, provBody, hs]

/-- … in the next iteration of the stateUpdateLoop: state "ordered", the same incoming ticket, nil local ticket -/
theorem C16_errExists_next_step_panics :
    (stepProvider (envP init) sOrdered (some tRegistered) none).res = .panic := by decide +kernel

theorem C16_real_driver_never_reports_exists (b : Bool) (t : Ticket) :
    (driverSubmit b t).2 ≠ .errExists := by
  unfold driverSubmit
  split
  · simp
  · split <;> simp

/-! ## (5) liveness without restarts -/

def ReachableNR (s : Sys) : Prop := ∃ as, as.all noRestartAct = true ∧ run init as = some s

/-- Without restarts and cancellations – only deliveries of any sent ticket in any order any number of times, handler
steps and receive errors – from EVERY state reachable that way a finite sequence of deliveries and handler steps reaches
both-expecting, and both-expecting is stable under all such steps (so under fair delivery both parties reach and keep
the expecting-channel state). -/
theorem C16_progress :
    (∀ s, ReachableNR s → ∃ as s', as.all noRestartAct = true ∧ run s as = some s' ∧ bothExpecting s' = true) ∧
    (∀ s, ReachableNR s → bothExpecting s = true → ∀ a s', noRestartAct a = true → apply s a = some s' →
      bothExpecting s' = true) := by
  have reach : ∀ s, ReachableNR s → ∃ c, s = mk c := by
    intro s ⟨as, hall, hrun⟩
    unfold run at hrun
    rw [finReturns_true, init_eq_mk] at hrun
    exact NR_run as _ hall s hrun
  constructor
  · intro s hs
    obtain ⟨c, rfl⟩ := reach s hs
    obtain ⟨as, c', hall, hrun, hr⟩ := NR_progress c
    refine ⟨as, mk c', hall, ?_, (bothExpecting_mk c').2 hr⟩
    unfold run; rw [finReturns_true]; exact hrun
  · intro s hs hb a s' hn ha
    obtain ⟨c, rfl⟩ := reach s hs
    unfold apply at ha
    rw [finReturns_true] at ha
    exact NR_stable c ((bothExpecting_mk c).1 hb) a hn s' ha

def fairRun : List Act := happyP ++ [.deliver false 0, .proc false]

-- non-vacuity: the fair run is a no-restart run and ends both-expecting; duplicates keep it there
example : fairRun.all noRestartAct = true ∧ (run init fairRun).map bothExpecting = some true ∧
    (run init (fairRun ++ [.deliver true 0, .proc true, .deliver false 0, .proc false, .deliver false 1,
      .proc false, .recvErr true, .recvErr false])).map bothExpecting = some true := by decide +kernel

end Pool.C16
