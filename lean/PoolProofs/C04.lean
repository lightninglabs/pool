import PoolProofs.C04LemmasScript

/-! C04 — account outputs need both signatures before expiry and only the trader's after: the headline theorems.
What is modelled, what is regenerated from the Go source and what is ideal (signatures, the taproot commitment) is
said at the head of `PoolModel/C04.lean`. -/
namespace Pool.C04

/-- **Script numbers**: what `scriptNum.Bytes` produces for a uint32 expiry decodes back to it under the CLTV rules
(minimal encoding, at most 5 bytes). -/
theorem scriptNum_roundtrip (n : Nat) (h : n < 2 ^ 32) :
    makeScriptNum (scriptNumBytes n) true cltvMaxScriptNumLen = .ok (n : Int) ∧
    (scriptNumBytes n).length =
      (if n = 0 then 0 else if n < 128 then 1 else if n < 32768 then 2 else if n < 8388608 then 3
       else if n < 2147483648 then 4 else 5) := by
  refine ⟨(numOK_scriptNum h).dec, ?_⟩
  have h9 : n < 256 ^ 9 := by omega
  repeat' split
  · simp [*, scriptNumBytes]
  all_goals exact scriptNumBytes_length_eq n _ (by omega) (by omega) h9

example : scriptNumBytes 52560 = [0x50, 0xcd, 0x00] := by decide
example : scriptNumBytes 127 = [0x7f] ∧ scriptNumBytes 128 = [0x80, 0x00] ∧ scriptNumBytes 32767 = [0xff, 0x7f] ∧
    scriptNumBytes 32768 = [0x00, 0x80, 0x00] ∧ scriptNumBytes 8388607 = [0xff, 0xff, 0x7f] := by decide

/-- the BIP-65 condition as a proposition -/
def CLTV (lockTime sequence expiry : Nat) : Prop :=
  ((lockTime < LockTimeThreshold) ↔ (expiry < LockTimeThreshold)) ∧ expiry ≤ lockTime ∧
    sequence ≠ MaxTxInSequenceNum

theorem cltv_iff (lt sq e : Nat) : cltvSatisfied lt sq e = true ↔ CLTV lt sq e := by
  simp [cltvSatisfied, CLTV, Bool.and_eq_true, beq_iff_eq, decide_eq_decide, and_assoc]

/-- **p2wsh, exact outcome** of spending Pool's version-0 account output with the witness `stack ++ [script]`.
`nullFail` also stands for the encoding errors btcd raises, before it verifies anything, for a signature that is not
strict DER with a known hash type or a key that is not compressed. -/
theorem C04_p2wsh_outcome (lt sq : Nat) (sigOK : Bytes → Bytes → Bool) (e : Nat) (tk ak : Bytes)
    (htk : tk.length = 33) (hak : ak.length = 33) (he : e < 2 ^ 32) (stack : List Bytes)
    (hsz : ∀ x ∈ stack, x.length ≤ MaxScriptElementSize) :
    verifyP2WSH (stdCtx false lt sq sigOK) (Sha256.sha256 (accountWitnessScript e tk ak))
        (stack ++ [accountWitnessScript e tk ak]) =
      match stack.reverse with
      | [] => .error .invalidStackOperation
      | [σt] =>
        if σt = [] then .error .checkSigVerify
        else if sigOK tk σt = false then .error .nullFail
        else .error .invalidStackOperation
      | σt :: σa :: rest =>
        if σt = [] then .error .checkSigVerify
        else if sigOK tk σt = false then .error .nullFail
        else if σa = [] then
          (if cltvSatisfied lt sq e then v0Final (scriptNumBytes e) rest else .error .unsatisfiedLockTime)
        else if sigOK ak σa = false then .error .nullFail
        else v0Final [1] rest := by
  have hN := numOK_scriptNum he
  have hNl : (scriptNumBytes e).length ≤ 520 := Nat.le_trans hN.len (by decide)
  have hcl := opCLTV_num hN
  have := (addDataBytes_scriptNum_length_le_iff 5 he (by decide)).mpr (by omega)
  rw [verifyP2WSH_eq_run _ rfl (parse_accountWitnessScript htk hak he)
    (by rw [accountWitnessScript_length htk hak he, MaxScriptSize]; omega) hsz]
  -- what is left is the interpreter on `accountInstrs e tk ak`: one run per leaf of the tree
  generalize stack.reverse = st
  match st with
  | [] => run_simp
  | [σt] =>
    cases σt with
    | nil => run_simp
    | cons t0 ts => cases hvt : sigOK tk (t0 :: ts) <;> run_simp
  | σt :: σa :: rest =>
    cases σt with
    | nil => run_simp
    | cons t0 ts =>
      cases hvt : sigOK tk (t0 :: ts) with
      | false => run_simp
      | true =>
        cases σa with
        | nil => cases hc : cltvSatisfied lt sq e <;> run_simp
        | cons a0 as => cases hva : sigOK ak (a0 :: as) <;> run_simp

/-- **C04, p2wsh**: the property's two ways to spend the version-0 account output, as an iff over all witnesses.
`e ≠ 0`: on the expiry branch the CLTV argument stays on the stack and must be truthy. -/
theorem C04_p2wsh_spendable_iff (lt sq : Nat) (sigOK : Bytes → Bytes → Bool) (e : Nat) (tk ak : Bytes)
    (htk : tk.length = 33) (hak : ak.length = 33) (he : e < 2 ^ 32) (stack : List Bytes)
    (hsz : ∀ x ∈ stack, x.length ≤ MaxScriptElementSize) :
    verifyP2WSH (stdCtx false lt sq sigOK) (Sha256.sha256 (accountWitnessScript e tk ak))
        (stack ++ [accountWitnessScript e tk ak]) = .ok () ↔
    ∃ σa σt, stack = [σa, σt] ∧ σt ≠ [] ∧ sigOK tk σt = true ∧
      ((σa ≠ [] ∧ sigOK ak σa = true) ∨ (σa = [] ∧ CLTV lt sq e ∧ e ≠ 0)) := by
  rw [C04_p2wsh_outcome lt sq sigOK e tk ak htk hak he stack hsz]
  obtain ⟨l, rfl⟩ : ∃ l, stack = l.reverse := ⟨stack.reverse, (List.reverse_reverse _).symm⟩
  simp only [List.reverse_reverse, List.reverse_eq_iff, ← cltv_iff]
  rcases l with _ | ⟨σt, _ | ⟨σa, rest⟩⟩
  · simp
  · simp [ite_error_eq_ok]
  · by_cases ha : σa = [] <;> cases rest <;>
      simp [v0Final, ite_error_eq_ok, ite_else_error_eq_ok, (numOK_scriptNum he).truthy, ha, asBool_one, and_assoc]

/-- `Except Err Unit` has no `DecidableEq`: the examples compare error codes (`none` = accepted) -/
def code : Except Err Unit → Option Err
  | .ok _ => none
  | .error e => some e

def exTk : Bytes := List.replicate 33 2
def exAk : Bytes := List.replicate 33 3
def exOK : Bytes → Bytes → Bool := fun pk σ => (pk == exTk && σ == [7]) || (pk == exAk && σ == [9])

example :
    code (runScript (stdCtx false 0 0 exOK) (accountInstrs 52560 exTk exAk) [[7], [9]]) = none ∧
    code (runScript (stdCtx false 52560 0 exOK) (accountInstrs 52560 exTk exAk) [[7], []]) = none ∧
    code (runScript (stdCtx false 52559 0 exOK) (accountInstrs 52560 exTk exAk) [[7], []]) = some .unsatisfiedLockTime ∧
    code (runScript (stdCtx false 52560 0xffffffff exOK) (accountInstrs 52560 exTk exAk) [[7], []]) = some .unsatisfiedLockTime ∧
    code (runScript (stdCtx false 52560 0 exOK) (accountInstrs 52560 exTk exAk) [[], [9]]) = some .checkSigVerify ∧
    code (runScript (stdCtx false 5 0 exOK) (accountInstrs 0 exTk exAk) [[7], []]) = some .evalFalse := by
  decide

theorem C04_p2wsh_trader_only_early (lt sq : Nat) (sigOK : Bytes → Bytes → Bool) (e : Nat) (tk ak σt : Bytes)
    (htk : tk.length = 33) (hak : ak.length = 33) (he : e < 2 ^ 32) (hσ : σt.length ≤ MaxScriptElementSize)
    (hearly : lt < e) :
    verifyP2WSH (stdCtx false lt sq sigOK) (Sha256.sha256 (accountWitnessScript e tk ak))
        [[], σt, accountWitnessScript e tk ak] ≠ .ok () := by
  have := (C04_p2wsh_spendable_iff lt sq sigOK e tk ak htk hak he [[], σt]
    (by simpa using hσ))
  intro h
  obtain ⟨σa, σt', ⟨rfl, rfl⟩, _, _, h3 | h3⟩ := this.mp (by simpa using h)
  · exact h3.1 rfl
  · have := h3.2.1.2.1; omega

/-- **Auctioneer-only spend is invalid**: whatever the auctioneer puts in its slot, an empty (or otherwise
invalid) trader element never passes. -/
theorem C04_p2wsh_auctioneer_only (lt sq : Nat) (sigOK : Bytes → Bytes → Bool) (e : Nat) (tk ak σa σt : Bytes)
    (htk : tk.length = 33) (hak : ak.length = 33) (he : e < 2 ^ 32)
    (hσa : σa.length ≤ MaxScriptElementSize) (hσt : σt.length ≤ MaxScriptElementSize)
    (hno : σt = [] ∨ sigOK tk σt = false) :
    verifyP2WSH (stdCtx false lt sq sigOK) (Sha256.sha256 (accountWitnessScript e tk ak))
        [σa, σt, accountWitnessScript e tk ak] ≠ .ok () := by
  have := (C04_p2wsh_spendable_iff lt sq sigOK e tk ak htk hak he [σa, σt]
    (by simpa using ⟨hσa, hσt⟩))
  intro h
  obtain ⟨σa', σt', ⟨rfl, rfl⟩, h1, h2, _⟩ := this.mp (by simpa using h)
  rcases hno with h | h
  · exact h1 h
  · rw [h] at h2; exact absurd h2 (by simp)

theorem determineWitnessType_spec (v st e best : Nat) :
    determineWitnessType v st e best =
      (if v = 1 ∨ v = 2 then (if st = Gen.C04.stateExpired ∨ e ≤ best then .expiryTaproot else .muSig2Taproot)
       else (if st = Gen.C04.stateExpired ∨ e ≤ best then .expiryWitness else .multiSigWitness)) := by
  rw [determineWitnessType]
  -- the three keys under which the table is consulted: a class representative each, and what it says
  generalize hv : (if Gen.C04.dwtVersionSpecial.contains v then v else Gen.C04.dwtVersionOther) = vk
  generalize hs : (if Gen.C04.dwtStateSpecial.contains st then st else Gen.C04.dwtStateOther) = sk
  generalize hr : (if best < e then 0 else if best = e then 1 else 2) = rel
  have ⟨mv, ev⟩ : vk ∈ [1, 2, 3] ∧ (vk = 3 ↔ ¬ (v = 1 ∨ v = 2)) := by
    subst hv
    simp only [Gen.C04.dwtVersionSpecial, Gen.C04.dwtVersionOther, List.contains_cons, List.contains_nil,
      Bool.or_false, Bool.or_eq_true, beq_iff_eq, List.mem_cons, List.not_mem_nil, or_false]
    split <;> omega
  have ⟨ms, es⟩ : sk ∈ [4, 10] ∧ (sk = 4 ↔ st = Gen.C04.stateExpired) := by
    subst hs
    simp only [Gen.C04.dwtStateSpecial, Gen.C04.dwtStateOther, Gen.C04.stateExpired, List.contains_cons,
      List.contains_nil, Bool.or_false, beq_iff_eq, List.mem_cons, List.not_mem_nil, or_false]
    split <;> omega
  have ⟨mr, er⟩ : rel ∈ [0, 1, 2] ∧ (rel ≠ 0 ↔ e ≤ best) := by
    subst hr
    simp only [List.mem_cons, List.not_mem_nil, or_false]
    split <;> (try split) <;> omega
  refine (dwtTable_spec vk mv sk ms rel mr).trans ?_
  simp only [ev, es, er, ite_not]

/-- `dwtNoArith`: the extractor found no arithmetic in the Go `determineWitnessType`, expiry and best height are
only compared, so the table's three relative positions stand for all heights.  Trusted; nothing here uses it. -/
theorem determineWitnessType_comparison_only : Gen.C04.dwtNoArith = true := by decide

/-- **C04, lock-time choice.**  `determineWitnessType` picks an expiry type exactly when
`State == StateExpired ∨ bestHeight ≥ expiry`; for it `spendAccount` (action CLOSE) sets `LockTime = bestHeight`,
otherwise 0; `createSpendTx` gives the account input sequence 0; with these the script's CLTV is met exactly when
`bestHeight ≥ expiry`. -/
theorem C04_locktime_choice (v st e best : Nat) (hb : best < LockTimeThreshold) :
    let wt := determineWitnessType v st e best
    (wtypeIsExpiry wt = true ↔ (st = Gen.C04.stateExpired ∨ e ≤ best)) ∧
    (wtypeIsExpiry wt = true → spendLockTime wt true best = some best) ∧
    (wtypeIsExpiry wt = false → ∀ isClose, spendLockTime wt isClose best = some 0) ∧
    createSpendTxSequence = some 0 ∧
    (CLTV best 0 e ↔ e ≤ best) := by
  refine ⟨?_, fun h => spendLockTime_expiry _ true best h, fun h c => spendLockTime_coop _ c best h ?_,
    by decide, ?_⟩
  · simp [determineWitnessType_spec, apply_ite wtypeIsExpiry, wtypeIsExpiry_eq]
  · rw [determineWitnessType_spec]
    split <;> split <;> simp
  · simp only [CLTV, LockTimeThreshold, MaxTxInSequenceNum] at *
    exact ⟨fun h => h.2.1, fun h => ⟨⟨fun _ => by omega, fun _ => hb⟩, h, by decide⟩⟩

/-- **The stated corner**: an account marked `StateExpired` whose expiry is above the best height handed to
`determineWitnessType` takes the expiry path with `LockTime = bestHeight < expiry`, which the script rejects. -/
theorem C04_locktime_expired_state_corner (v e best : Nat) (hlt : best < e) :
    let wt := determineWitnessType v Gen.C04.stateExpired e best
    wtypeIsExpiry wt = true ∧ spendLockTime wt true best = some best ∧ ¬ CLTV best 0 e := by
  have h : wtypeIsExpiry (determineWitnessType v Gen.C04.stateExpired e best) = true := by
    simp [determineWitnessType_spec, apply_ite wtypeIsExpiry, wtypeIsExpiry_eq]
  exact ⟨h, spendLockTime_expiry _ true best h, fun c => by have := c.2.1; omega⟩

example : determineWitnessType 1 3 100 100 = .expiryTaproot ∧ determineWitnessType 0 3 100 99 = .multiSigWitness ∧
    determineWitnessType 77 4 100 5 = .expiryWitness := by decide

/-- **RenewAccount always takes the cooperative path**: its witness type is never an expiry type and
`spendAccount` sets lock time 0 for it – so a renewal needs the auctioneer's signature even after expiry. -/
theorem C04_renew_cooperative (v best : Nat) :
    wtypeIsExpiry (renewWitnessType v) = false ∧
    spendLockTime (renewWitnessType v) false best = some 0 ∧
    (renewWitnessType v = .muSig2Taproot ↔ 1 ≤ v) ∧ (renewWitnessType v = .multiSigWitness ↔ v = 0) := by
  rw [renewWitnessType_eq]
  by_cases h : v = 0
  · simp [h, wtypeIsExpiry_eq, spendLockTime_eq]
  · simp [h, wtypeIsExpiry_eq, spendLockTime_eq]; omega

/-- which rule each account-spending manager method uses (regenerated); modifications (not CLOSE) on an expiry
type are refused -/
theorem C04_manager_witness_types (v st e best : Nat) :
    managerWitnessType "CloseAccount" v st e best = some (determineWitnessType v st e best) ∧
    managerWitnessType "DepositAccount" v st e best = some (determineWitnessType v st e best) ∧
    managerWitnessType "WithdrawAccount" v st e best = some (determineWitnessType v st e best) ∧
    managerWitnessType "RenewAccount" v st e best = some (renewWitnessType v) ∧
    (wtypeIsExpiry (determineWitnessType v st e best) = true →
      spendLockTime (determineWitnessType v st e best) false best = none) := by
  refine ⟨?_, ?_, ?_, ?_, fun h => spendLockTime_expiry _ false best h⟩
  all_goals simp [managerWitnessType, lookupStr, Gen.C04.spendWitnessTypeSource]

example : renewWitnessType 0 = .multiSigWitness ∧ renewWitnessType 2 = .muSig2Taproot ∧
    managerWitnessType "WithdrawAccount" 1 3 100 100 = some .expiryTaproot := by decide

/-- **The stored record after a batch describes the re-created output**: what `batchStorer.StorePendingBatch`
stages has the value, expiry, version and batch key of the output whose script `batchVerifier.Verify` checked with
`NextOutputScript`, so the witnesses Pool later builds from it are for the script on chain.  A modifier that does
anything but assign its argument (a "monotonic" `ExpiryModifier`, say) or a storer condition that differs from the
verifier's breaks this proof. -/
theorem C04_stored_record_is_verified_output (d : DiffIn) (a : AcctRec) :
    storedAfterBatch d a = verifiedOutputParams d a ∧
    verifiedOutputParams d a = some
      { value := d.endingBalance
        expiry := if d.supportsExt && d.newExpiry != 0 then d.newExpiry else a.expiry
        version := if d.supportsUpg && decide (d.newVersion > a.version) then d.newVersion else a.version
        batchInc := a.batchInc + 1 } := by
  simp only [storedAfterBatch, verifiedOutputParams, Gen.C04.storerModifiers, Gen.C04.verifierAccountUpdates]
  -- both programs row by row; each condition is evaluated on `a`, the account as loaded, and stays symbolic.  Of the
  -- storer's other modifiers only IncrementBatchKey and ValueModifier touch the four fields: those are what
  -- `verifiedOutputParams` adds to the verifier's two updates.
  simp [storedAfterBatchWith_cons, verifiedWith_cons, storedAfterBatchWith.eq_1, verifiedWith.eq_1, diffCondHolds,
    diffArg, applyModifier, Gen.C04.modifierBodies, applyStmts, applyModifierStmt]
  split <;> split <;> simp

/-- non-vacuity: an expiry *lowered* by the auctioneer and a version upgrade are both persisted -/
example : storedAfterBatch ⟨true, true, 900, 400, 2⟩ ⟨1000, 500, 1, 7⟩ = some ⟨900, 400, 2, 8⟩ ∧
    storedAfterBatch ⟨false, false, 900, 400, 2⟩ ⟨1000, 500, 1, 7⟩ = some ⟨900, 500, 1, 8⟩ := by
  constructor <;>
    rw [(C04_stored_record_is_verified_output _ _).1, (C04_stored_record_is_verified_output _ _).2] <;> simp

/-- **C04, classification.**  Every witness Pool builds is classified by `manager.HandleAccountSpend`'s switch
(regenerated case order) as the path it takes – `SpendExpiryTaproot` only for `expiry < 2^23`. -/
theorem C04_classification_agrees (e : Nat) (tk ak tkx σt σa σ key : Bytes) (v : UInt8)
    (htk : tk.length = 33) (hak : ak.length = 33) (hx : tkx.length = 32) (he : e < 2 ^ 32)
    (hσa : σa ≠ []) (hσ : σ.length = 64) (hσt : σt ≠ []) (hkey : key.length = 32)
    (hv : v.toNat = 0xc0 ∨ v.toNat = 0xc1) :
    (spendMultiSig (accountWitnessScript e tk ak) σt σa).map classify = some .multisig ∧
    (spendExpiry (accountWitnessScript e tk ak) σt).map classify = some .expiry ∧
    (spendMuSig2Taproot σ).map classify = some .multisig ∧
    (e < 2 ^ 23 → (spendExpiryTaproot (taprootExpiryScript e tkx) σt (v :: key)).map classify = some .expiry) := by
  refine ⟨?_, ?_, ?_, fun h23 => ?_⟩
  · -- the account script in the place of a control block begins with 0x21
    rw [spendMultiSig_eq, accountWitnessScript_eq htk hak he, addDataBytes_long tk htk]
    simp [classify_three_of_ne_nil _ _ _ hσa]
  · simp [spendExpiry_eq, classify_eq, isExpirySpend]
  · simp [spendMuSig2Taproot_eq, classify_eq, isExpirySpend, isTaprootExpirySpend, hasAnnex, isMultiSigSpend,
      isTaprootMultiSigSpend, hσ]
  · rw [classify_spendExpiryTaproot hx he hσt hkey hv, if_pos h23]

/-- **Why the bound `expiry < 2^23` is needed**: from `2^23` on the script number takes at least 4 bytes, the leaf
script at least 40 (> `TaprootExpiryScriptSize`), `IsTaprootExpirySpend` is false and the handler's second case
(`IsMultiSigSpend`) classifies the trader-only spend as cooperative.
(Outside the property's quantifier; heights ≥ 8 388 608.) -/
theorem C04_classification_boundary (e : Nat) (tkx σt key : Bytes) (v : UInt8)
    (hx : tkx.length = 32) (he : e < 2 ^ 32) (h23 : 2 ^ 23 ≤ e) (hσt : σt ≠ []) (hkey : key.length = 32)
    (hv : v.toNat = 0xc0 ∨ v.toNat = 0xc1) :
    (spendExpiryTaproot (taprootExpiryScript e tkx) σt (v :: key)).map classify = some .multisig := by
  rw [classify_spendExpiryTaproot hx he hσt hkey hv, if_neg (by omega)]

/-- **Size constants** (regenerated) that Pool's fee estimation and `IsTaprootExpirySpend` rely on, against the
lengths of the scripts; the leaf has the maximal size already for 3-byte expiries (heights 32768 … 8388607). -/
theorem C04_script_sizes (e : Nat) (tk ak tkx : Bytes) (htk : tk.length = 33) (hak : ak.length = 33)
    (hx : tkx.length = 32) :
    (e < 2 ^ 31 → (accountWitnessScript e tk ak).length ≤ Gen.C04.AccountWitnessScriptSize) ∧
    (e < 2 ^ 23 → Gen.C04.taprootExpiryMinScriptLen ≤ (taprootExpiryScript e tkx).length ∧
      (taprootExpiryScript e tkx).length ≤ Gen.C04.TaprootExpiryScriptSize) ∧
    (2 ^ 15 ≤ e → e < 2 ^ 23 → (taprootExpiryScript e tkx).length = Gen.C04.TaprootExpiryScriptSize) := by
  by_cases he : e < 2 ^ 32
  · have := addDataBytes_length_pos (scriptNumBytes e)
    have := addDataBytes_scriptNum_length_le_iff 2 he (by decide)
    have := addDataBytes_scriptNum_length_le_iff 3 he (by decide)
    have := addDataBytes_scriptNum_length_le_iff 4 he (by decide)
    rw [accountWitnessScript_length htk hak he, taprootExpiryScript_length hx he,
      Gen.C04.AccountWitnessScriptSize, Gen.C04.taprootExpiryMinScriptLen, Gen.C04.TaprootExpiryScriptSize]
    omega
  · exact ⟨fun h => by omega, fun h => by omega, fun _ h => by omega⟩

theorem accountWitnessScript_inj (e e' : Nat) (tk ak tk' ak' : Bytes)
    (htk : tk.length = 33) (hak : ak.length = 33) (htk' : tk'.length = 33) (hak' : ak'.length = 33)
    (he : e < 2 ^ 32) (he' : e' < 2 ^ 32)
    (h : accountWitnessScript e tk ak = accountWitnessScript e' tk' ak') : e = e' ∧ tk = tk' ∧ ak = ak' := by
  have p := parse_accountWitnessScript htk hak he
  rw [h, parse_accountWitnessScript htk' hak' he'] at p
  simp only [accountInstrs, Option.some.injEq, List.cons.injEq, Instr.push.injEq, and_true, true_and] at p
  exact ⟨(scriptNumBytes_inj e' e (by omega) (by omega) p.2.2).symm, p.1.symm, p.2.1.symm⟩

/-- the version-0 account script as a function of the property's parameters: `tweakT batchKey secret` is the
tweaked trader key (for the fixed base key), `tweakA` derives the tweaked auctioneer key from it -/
def acctScript (tweakT : Bytes → Bytes → Bytes) (tweakA : Bytes → Bytes) (b s : Bytes) (e : Nat) : Bytes :=
  accountWitnessScript e (tweakT b s) (tweakA (tweakT b s))

/-- **C04, signatures for another batch key, secret or expiry are invalid** (ideal signatures, p2wsh).
Verification is `σ = sign pk msg`; `sighash` is the BIP-143 digest of the fixed spending transaction as a function
of the committed script.  The cryptographic assumptions are stated *at the two parameter sets in question* (no
collision of the key-tweak hash, of the sighash and of signatures between them) – a global injectivity of functions
into 33/32-byte strings would be unsatisfiable. -/
theorem C04_wrong_params_invalid
    (sign : Bytes → Bytes → Bytes) (sighash : Bytes → Bytes) (tweakT : Bytes → Bytes → Bytes)
    (tweakA : Bytes → Bytes) (b s b' s' : Bytes) (e e' : Nat) (he : e < 2 ^ 32) (he' : e' < 2 ^ 32)
    (htl : (tweakT b s).length = 33) (htl' : (tweakT b' s').length = 33)
    (hal : (tweakA (tweakT b s)).length = 33) (hal' : (tweakA (tweakT b' s')).length = 33)
    (htw : tweakT b' s' = tweakT b s → b' = b ∧ s' = s)
    (hsh : sighash (acctScript tweakT tweakA b' s' e') = sighash (acctScript tweakT tweakA b s e) →
      acctScript tweakT tweakA b' s' e' = acctScript tweakT tweakA b s e)
    (hsign : sign (tweakT b' s') (sighash (acctScript tweakT tweakA b' s' e')) =
        sign (tweakT b s) (sighash (acctScript tweakT tweakA b s e)) →
      tweakT b' s' = tweakT b s ∧
        sighash (acctScript tweakT tweakA b' s' e') = sighash (acctScript tweakT tweakA b s e))
    (hne : ¬ (b' = b ∧ s' = s ∧ e' = e)) (lt sq : Nat) (σa : Bytes) (hσa : σa.length ≤ MaxScriptElementSize)
    (hσl : (sign (tweakT b' s') (sighash (acctScript tweakT tweakA b' s' e'))).length ≤ MaxScriptElementSize) :
    let S := acctScript tweakT tweakA b s e
    let σ' := sign (tweakT b' s') (sighash (acctScript tweakT tweakA b' s' e'))
    let idealOK : Bytes → Bytes → Bool := fun pk σ => decide (σ = sign pk (sighash S))
    idealOK (tweakT b s) σ' = false ∧
    verifyP2WSH (stdCtx false lt sq idealOK) (Sha256.sha256 S) [σa, σ', S] ≠ .ok () := by
  intro S σ' idealOK
  have hbad : idealOK (tweakT b s) σ' = false := by
    refine decide_eq_false fun heq => ?_
    obtain ⟨hk, hm⟩ := hsign heq
    have := accountWitnessScript_inj e' e _ _ _ _ htl' hal' htl hal he' he (hsh hm)
    exact hne ⟨(htw hk).1, (htw hk).2, this.1⟩
  exact ⟨hbad, C04_p2wsh_auctioneer_only lt sq idealOK e (tweakT b s) (tweakA (tweakT b s)) σa σ' htl hal he hσa hσl
    (Or.inr hbad)⟩

def exTweakT : Bytes → Bytes → Bytes := fun b s => List.replicate 33 (b.headD 0 + s.headD 0)
def exTweakA : Bytes → Bytes := fun t => List.replicate 33 (t.headD 0 + 1)
def exSign : Bytes → Bytes → Bytes := fun pk m => pk ++ m

/-- non-vacuity: foreign expiry (same keys); `sign` is concatenation, `sighash` the identity, written `fun m => m`
so that the instance has the example's statement up to β -/
example :
    verifyP2WSH (stdCtx false 60000 0 (fun pk σ => decide (σ = exSign pk (acctScript exTweakT exTweakA [1] [2] 52560))))
      (Sha256.sha256 (acctScript exTweakT exTweakA [1] [2] 52560))
      [[], exSign (exTweakT [1] [2]) (acctScript exTweakT exTweakA [1] [2] 52561),
        acctScript exTweakT exTweakA [1] [2] 52560] ≠ .ok () :=
  (C04_wrong_params_invalid exSign (fun m => m) exTweakT exTweakA [1] [2] [1] [2] 52560 52561 (by decide)
    (by decide) (by decide) (by decide) (by decide) (by decide) (fun _ => ⟨rfl, rfl⟩) (fun h => h)
    (fun h => ⟨rfl, List.append_cancel_left h⟩) (by decide) 60000 0 [] (by decide)
    (by rw [exSign, List.length_append, acctScript, accountWitnessScript_length rfl rfl (by decide)]; decide)).2

/-- non-vacuity: foreign batch key -/
example :
    verifyP2WSH (stdCtx false 60000 0 (fun pk σ => decide (σ = exSign pk (acctScript exTweakT exTweakA [1] [2] 52560))))
      (Sha256.sha256 (acctScript exTweakT exTweakA [1] [2] 52560))
      [[], exSign (exTweakT [3] [2]) (acctScript exTweakT exTweakA [3] [2] 52560),
        acctScript exTweakT exTweakA [1] [2] 52560] ≠ .ok () :=
  (C04_wrong_params_invalid exSign (fun m => m) exTweakT exTweakA [1] [2] [3] [2] 52560 52560 (by decide)
    (by decide) (by decide) (by decide) (by decide) (by decide) (fun h => absurd h (by decide)) (fun h => h)
    (fun h => absurd (congrArg (fun l => l.headD 0) h) (by decide)) (by decide) 60000 0 [] (by decide)
    (by rw [exSign, List.length_append, acctScript, accountWitnessScript_length rfl rfl (by decide)]; decide)).2

theorem schnorrSigLenOK_ne_nil (σ : Bytes) (h : schnorrSigLenOK σ = true) : σ ≠ [] := by
  intro hn; subst hn; simp [schnorrSigLenOK] at h

/-- **C04, taproot (versions 1 and 2).**  `program` is the output key Pool put into the pkScript.  The EC parts
are ideal: `env.keySpendOK program σ` = "σ is a valid BIP-340 signature of the spending transaction under the
output key" (producible only by trader and auctioneer together through MuSig2), and the commitment check
accepts only what the output key commits to – Pool's expiry leaf with a 33-byte base-version control block
(`hcommit`).  Then (no annex) the output is spendable exactly by the key path with such a signature, or by
the script path under the conditions of the p2wsh expiry branch. -/
theorem C04_taproot_core_iff (lt sq : Nat) (sigOK : Bytes → Bytes → Bool) (env : TapEnv) (e : Nat)
    (tkx program : Bytes) (hx : tkx.length = 32) (he : e < 2 ^ 32) (witness : List Bytes)
    (hsz : ∀ x ∈ witness, x.length ≤ MaxScriptElementSize)
    (hcommit : ∀ cb s, env.commitOK cb program s = true →
      s = taprootExpiryScript e tkx ∧ cb.length = 33 ∧ ∃ v rest, cb = v :: rest ∧ v.toNat / 2 * 2 = 0xc0) :
    verifyTaprootCore (stdCtx true lt sq sigOK) env program witness = .ok () ↔
      (∃ σ, witness = [σ] ∧ schnorrSigLenOK σ = true ∧ env.keySpendOK program σ = true) ∨
      (∃ σt cb, witness = [σt, taprootExpiryScript e tkx, cb] ∧
        env.commitOK cb program (taprootExpiryScript e tkx) = true ∧
        schnorrSigLenOK σt = true ∧ sigOK tkx σt = true ∧ CLTV lt sq e ∧ e ≠ 0) := by
  -- the engine reads the witness from its end
  obtain ⟨l, rfl⟩ : ∃ l, witness = l.reverse := ⟨witness.reverse, (List.reverse_reverse _).symm⟩
  simp only [List.reverse_eq_iff, ← cltv_iff]
  rcases l with _ | ⟨cb, _ | ⟨script, revStack⟩⟩
  · simp [verifyTaprootCore]
  · simp [verifyTaprootCore, ite_error_eq_ok]
  · by_cases hc : env.commitOK cb program script = true
    · obtain ⟨rfl, hcl, v, rest, rfl, hver⟩ := hcommit cb script hc
      rw [List.reverse_cons, List.reverse_cons, List.append_assoc, List.singleton_append] at hsz ⊢
      rw [verifyTaprootCore_eq_run _ rfl (parse_taprootExpiryScript hx he)
        (fun x hx => hsz x (List.mem_append_left _ hx)) hcl hver hc, List.reverse_reverse,
        tap_run hx (numOK_scriptNum he)]
      rcases revStack with _ | ⟨σt, rest⟩
      · simp
      · by_cases h0 : σt = []
        · simp [h0, schnorrSigLenOK]
        · cases rest <;>
            simp [h0, hc, tapFinal, ite_error_eq_ok, ite_else_error_eq_ok, (numOK_scriptNum he).truthy, and_assoc]
    · -- neither side holds: the engine stops at the commitment test; the right side wants one element or this
      -- commitment
      refine iff_of_false (by simp [verifyTaprootCore, hc, ite_error_eq_ok]) ?_
      rintro (⟨σ, h, _⟩ | ⟨σt, cb', h, hc', _⟩)
      · cases h
      · cases h
        exact hc hc'

/-- **C04, taproot, annex included.**  `verifyWitnessProgram` snips a BIP-341 annex (last of ≥ 2 elements,
first byte 0x50) off the witness before it decides between key path and script path, so the characterisation
holds for *every* witness, about the witness without its annex.  The sighash commits to the annex; that dependency
is inside the ideal `sigOK` / `keySpendOK`. -/
theorem C04_taproot_spendable_iff_annex (lt sq : Nat) (sigOK : Bytes → Bytes → Bool) (env : TapEnv) (e : Nat)
    (tkx program : Bytes) (hx : tkx.length = 32) (he : e < 2 ^ 32) (witness : List Bytes)
    (hsz : ∀ x ∈ witness, x.length ≤ MaxScriptElementSize)
    (hcommit : ∀ cb s, env.commitOK cb program s = true →
      s = taprootExpiryScript e tkx ∧ cb.length = 33 ∧ ∃ v rest, cb = v :: rest ∧ v.toNat / 2 * 2 = 0xc0) :
    verifyTaproot (stdCtx true lt sq sigOK) env program witness = .ok () ↔
      (∃ σ, stripAnnex witness = [σ] ∧ schnorrSigLenOK σ = true ∧ env.keySpendOK program σ = true) ∨
      (∃ σt cb, stripAnnex witness = [σt, taprootExpiryScript e tkx, cb] ∧
        env.commitOK cb program (taprootExpiryScript e tkx) = true ∧
        schnorrSigLenOK σt = true ∧ sigOK tkx σt = true ∧ CLTV lt sq e ∧ e ≠ 0) := by
  have hsz' : ∀ x ∈ stripAnnex witness, x.length ≤ MaxScriptElementSize := by
    unfold stripAnnex
    split
    · exact fun x h => hsz x (List.dropLast_subset _ h)
    · exact hsz
  by_cases hl : witness.length = 0
  · have hw : witness = [] := List.length_eq_zero_iff.mp hl
    subst hw
    simp [verifyTaproot, stripAnnex, hasAnnex]
  · simp only [verifyTaproot, hl, if_false]
    exact C04_taproot_core_iff lt sq sigOK env e tkx program hx he (stripAnnex witness) hsz' hcommit

/-- the annex-free special case (all witnesses Pool builds) -/
theorem C04_taproot_spendable_iff (lt sq : Nat) (sigOK : Bytes → Bytes → Bool) (env : TapEnv) (e : Nat)
    (tkx program : Bytes) (hx : tkx.length = 32) (he : e < 2 ^ 32) (witness : List Bytes)
    (hna : hasAnnex witness = false) (hsz : ∀ x ∈ witness, x.length ≤ MaxScriptElementSize)
    (hcommit : ∀ cb s, env.commitOK cb program s = true →
      s = taprootExpiryScript e tkx ∧ cb.length = 33 ∧ ∃ v rest, cb = v :: rest ∧ v.toNat / 2 * 2 = 0xc0) :
    verifyTaproot (stdCtx true lt sq sigOK) env program witness = .ok () ↔
      (∃ σ, witness = [σ] ∧ schnorrSigLenOK σ = true ∧ env.keySpendOK program σ = true) ∨
      (∃ σt cb, witness = [σt, taprootExpiryScript e tkx, cb] ∧
        env.commitOK cb program (taprootExpiryScript e tkx) = true ∧
        schnorrSigLenOK σt = true ∧ sigOK tkx σt = true ∧ CLTV lt sq e ∧ e ≠ 0) := by
  simpa [stripAnnex, hna] using
    C04_taproot_spendable_iff_annex lt sq sigOK env e tkx program hx he witness hsz hcommit

/-- `stripAnnex` takes the annex off a script-path witness and leaves a sole element that looks like one -/
example : stripAnnex [[7], [1, 2], [0xc0, 5], [0x50, 1]] = [[7], [1, 2], [0xc0, 5]] ∧
    stripAnnex [[0x50, 1]] = [[0x50, 1]] := by decide

theorem taprootExpiryScript_inj (e e' : Nat) (tkx tkx' : Bytes) (hx : tkx.length = 32) (hx' : tkx'.length = 32)
    (he : e < 2 ^ 32) (he' : e' < 2 ^ 32) (h : taprootExpiryScript e tkx = taprootExpiryScript e' tkx') :
    e = e' ∧ tkx = tkx' := by
  have p := parse_taprootExpiryScript hx he
  rw [h, parse_taprootExpiryScript hx' he'] at p
  simp only [taprootInstrs, Option.some.injEq, List.cons.injEq, Instr.push.injEq, and_true, true_and] at p
  exact ⟨(scriptNumBytes_inj e' e (by omega) (by omega) p.2).symm, p.1.symm⟩

/-- the taproot expiry leaf as a function of the property's parameters (`tweakX` = x-only tweaked trader key) -/
def tapLeaf (tweakX : Bytes → Bytes → Bytes) (b s : Bytes) (e : Nat) : Bytes :=
  taprootExpiryScript e (tweakX b s)

/-- **C04, signatures for another batch key, secret or expiry are invalid – taproot.**
`outKey leaf` is the output key (MuSig2 aggregate of the two base keys tweaked with the leaf hash); the key-path
message `keyMsg` and the tapscript digest `sighash leaf` belong to the fixed spending transaction.  Assumptions as
in `C04_wrong_params_invalid`, only at the two parameter sets, with no collision of the taproot commitment (`outKey`)
besides.  The conclusion covers the key path and the script path (real leaf, any committed control block). -/
theorem C04_wrong_params_invalid_taproot
    (sign : Bytes → Bytes → Bytes) (sighash : Bytes → Bytes) (tweakX : Bytes → Bytes → Bytes)
    (outKey : Bytes → Bytes) (keyMsg : Bytes)
    (b s b' s' : Bytes) (e e' : Nat) (he : e < 2 ^ 32) (he' : e' < 2 ^ 32)
    (hxl : (tweakX b s).length = 32) (hxl' : (tweakX b' s').length = 32)
    (htw : tweakX b' s' = tweakX b s → b' = b ∧ s' = s)
    (hout : outKey (tapLeaf tweakX b' s' e') = outKey (tapLeaf tweakX b s e) →
      tapLeaf tweakX b' s' e' = tapLeaf tweakX b s e)
    (hsh : sighash (tapLeaf tweakX b' s' e') = sighash (tapLeaf tweakX b s e) →
      tapLeaf tweakX b' s' e' = tapLeaf tweakX b s e)
    (hsignK : sign (outKey (tapLeaf tweakX b' s' e')) keyMsg = sign (outKey (tapLeaf tweakX b s e)) keyMsg →
      outKey (tapLeaf tweakX b' s' e') = outKey (tapLeaf tweakX b s e))
    (hsignS : sign (tweakX b' s') (sighash (tapLeaf tweakX b' s' e')) =
        sign (tweakX b s) (sighash (tapLeaf tweakX b s e)) →
      tweakX b' s' = tweakX b s ∧ sighash (tapLeaf tweakX b' s' e') = sighash (tapLeaf tweakX b s e))
    (hne : ¬ (b' = b ∧ s' = s ∧ e' = e)) (lt sq : Nat) (commitOK : Bytes → Bytes → Bytes → Bool)
    (hcommit : ∀ cb sc, commitOK cb (outKey (tapLeaf tweakX b s e)) sc = true →
      sc = tapLeaf tweakX b s e ∧ cb.length = 33 ∧ ∃ v rest, cb = v :: rest ∧ v.toNat / 2 * 2 = 0xc0) :
    let L := tapLeaf tweakX b s e
    let L' := tapLeaf tweakX b' s' e'
    let env : TapEnv := { keySpendOK := fun pk σ => decide (σ = sign pk keyMsg), commitOK := commitOK }
    let ctx := stdCtx true lt sq (fun pk σ => decide (σ = sign pk (sighash L)))
    ((sign (outKey L') keyMsg).length ≤ MaxScriptElementSize →
      verifyTaproot ctx env (outKey L) [sign (outKey L') keyMsg] ≠ .ok ()) ∧
    (∀ cb, hasAnnex [sign (tweakX b' s') (sighash L'), L, cb] = false →
      (∀ x ∈ [sign (tweakX b' s') (sighash L'), L, cb], x.length ≤ MaxScriptElementSize) →
      verifyTaproot ctx env (outKey L) [sign (tweakX b' s') (sighash L'), L, cb] ≠ .ok ()) := by
  intro L L' env ctx
  have hLne : L' ≠ L := by
    intro h
    have := taprootExpiryScript_inj e' e _ _ hxl' hxl he' he h
    exact hne ⟨(htw this.2).1, (htw this.2).2, this.1⟩
  have hiff := fun w hna hsz => (C04_taproot_spendable_iff lt sq (fun pk σ => decide (σ = sign pk (sighash L))) env e
    (tweakX b s) (outKey L) hxl he w hna hsz hcommit).mp
  constructor
  · intro hlen hok
    rcases hiff _ (by simp [hasAnnex]) (by simpa using hlen) hok with ⟨σ, hσ, _, hk⟩ | ⟨σt, cb, hw, _⟩
    · cases hσ
      exact hLne (hout (hsignK (of_decide_eq_true hk)))
    · cases hw
  · intro cb hna hsz hok
    rcases hiff _ hna hsz hok with ⟨σ, hσ, _⟩ | ⟨σt, cb', hw, _, _, hs, _⟩
    · cases hσ
    · cases hw
      exact hLne (hsh (hsignS (of_decide_eq_true hs)).2)

def exTweakX : Bytes → Bytes → Bytes := fun b s => List.replicate 32 (b.headD 0 + s.headD 0)
def exCommit : Bytes → Bytes → Bytes → Bool := fun cb prog sc => sc == prog && cb == (0xc0 :: List.replicate 32 0)

/-- non-vacuity: concatenation as `sign`, identities as `sighash`/`outKey`; foreign expiry, key path -/
example :
    verifyTaproot (stdCtx true 60000 0 (fun pk σ => decide (σ = exSign pk (tapLeaf exTweakX [1] [2] 52560))))
      { keySpendOK := fun pk σ => decide (σ = exSign pk [9]), commitOK := exCommit }
      (tapLeaf exTweakX [1] [2] 52560) [exSign (tapLeaf exTweakX [1] [2] 52561) [9]] ≠ .ok () :=
  (C04_wrong_params_invalid_taproot exSign (fun m => m) exTweakX (fun l => l) [9] [1] [2] [1] [2] 52560 52561
    (by decide) (by decide) (by decide) (by decide) (fun _ => ⟨rfl, rfl⟩) (fun h => h) (fun h => h)
    (fun h => List.append_cancel_right h) (fun h => ⟨rfl, List.append_cancel_left h⟩) (by decide) 60000 0 exCommit
    (by
      intro cb sc h
      simp only [exCommit, Bool.and_eq_true, beq_iff_eq] at h
      obtain ⟨h1, h2⟩ := h
      subst h1; subst h2
      exact ⟨rfl, by decide, 0xc0, List.replicate 32 0, rfl, by decide⟩)).1
    (by rw [exSign, List.length_append, tapLeaf, taprootExpiryScript_length rfl (by decide)]; decide)

def exTkx : Bytes := List.replicate 32 5
def exSig : Bytes := List.replicate 64 7
def exOKx : Bytes → Bytes → Bool := fun pk σ => pk == exTkx && σ == exSig

example :
    code (runScript (stdCtx true 52560 0 exOKx) (taprootInstrs 52560 exTkx) [exSig]) = none ∧
    code (runScript (stdCtx true 52559 0 exOKx) (taprootInstrs 52560 exTkx) [exSig]) = some .unsatisfiedLockTime ∧
    code (runScript (stdCtx true 52560 0 exOKx) (taprootInstrs 52560 exTkx) [[]]) = some .checkSigVerify ∧
    code (runScript (stdCtx true 52560 0 exOKx) (taprootInstrs 52560 exTkx) [List.replicate 64 8]) = some .nullFail := by
  decide

/-- non-vacuity (classification): Pool-built witnesses, the taproot expiry one on both sides of 2^23 -/
example :
    (spendExpiryTaproot (taprootExpiryScript 52560 exTkx) exSig (0xc0 :: exTkx)).map classify = some .expiry ∧
    (spendExpiryTaproot (taprootExpiryScript 8388608 exTkx) exSig (0xc0 :: exTkx)).map classify = some .multisig ∧
    (spendMultiSig (accountWitnessScript 52560 exTk exAk) [7] [9]).map classify = some .multisig ∧
    (spendExpiry (accountWitnessScript 52560 exTk exAk) [7]).map classify = some .expiry ∧
    (spendMuSig2Taproot exSig).map classify = some .multisig := by
  decide

end Pool.C04
