import PoolProofs.C11Covers
import PoolProofs.C11Overflow
/-! # C11 — reserved value covers the worst-case debit; orders never over-commit an account

The batches of the property's quantifier `Admissible` (`C11Covers`) group the fills arbitrarily, one fill per batch
included. -/
namespace Pool.C11
open Pool.Float64 Pool.Gen.Reserve

/-- **Bids.** For an active bid with a non-zero minimum match, a maximum fee rate at or above the fee floor (what
`validateOrder` admits) and inside the premium guard: `ReservedValue` does not panic, and over any admissible batch
sequence the verifier's tally debits at most the reserved value plus 2 sat per match. -/
theorem C11_bid_reserve_covers (fs : FeeSchedule) (o : Order) (ver : Nat) (bs : List BatchFills)
    (hbid : o.isBid = true) (hact : archived o.state = false) (hmin : 0 < o.minUnitsMatch)
    (hguard : premiumGuard o = true) (hfloor : feePerKwFloor ≤ o.maxBatchFeeRate)
    (hadm : Admissible o ver (· ≤ o.fixedRate) bs) :
    ∃ R : Int, orderReservedValue fs o ver = .ok R ∧ totalDebit fs o bs ≤ R + 2 * (totalFills bs : Int) := by
  have hc0 := cRate_nonneg o.fixedRate o.leaseDuration
  have hB : (0 : ℚ) ≤ (o.selfChanBalance : ℚ) + fs.baseFee := by positivity
  exact reserve_covers_of_linear fs o ver bs _ (a := cRate o.fixedRate o.leaseDuration + eRate fs)
    (δ := cRate o.fixedRate o.leaseDuration * eps) (σ := sigma o) (B := (o.selfChanBalance : ℚ) + fs.baseFee - 1)
    hact hmin hfloor hadm (add_nonneg hc0 (eRate_nonneg fs)) (mul_nonneg hc0 eps_pos.le) (Nat.cast_nonneg _) (by linarith)
    (premiumGuard_slack o hguard) (perMatch_linear_of_bid fs hbid) (matchDebit_le_of_bid fs hbid)

/-- **Asks.** The same inside the property's ask guard (`rate·duration ≤ 10^9`: the premium never exceeds the leased
amount); in the outbound market the premium is also paid on the matched bid's self balance. -/
theorem C11_ask_reserve_covers (fs : FeeSchedule) (o : Order) (ver : Nat) (bs : List BatchFills)
    (hask : o.isBid = false) (hact : archived o.state = false) (hmin : 0 < o.minUnitsMatch)
    (hag : askGuard o) (hguard : premiumGuard o = true) (hfloor : feePerKwFloor ≤ o.maxBatchFeeRate)
    (hadm : Admissible o ver (o.fixedRate ≤ ·) bs) :
    ∃ R : Int, orderReservedValue fs o ver = .ok R ∧ totalDebit fs o bs ≤ R + 2 * (totalFills bs : Int) := by
  have hc0 := cRate_nonneg o.fixedRate o.leaseDuration
  have hc1 := askGuard_q o hag
  have he := eRate_nonneg fs
  have hB : (0 : ℚ) ≤ fs.baseFee := Nat.cast_nonneg _
  -- the ask guard keeps the slope `1 - c + e` non-negative
  exact reserve_covers_of_linear fs o ver bs _ (a := 1 - cRate o.fixedRate o.leaseDuration + eRate fs)
    (δ := cRate o.fixedRate o.leaseDuration * eps) (σ := 0) (B := fs.baseFee) hact hmin hfloor hadm
    (by linarith) (mul_nonneg hc0 eps_pos.le) le_rfl (by linarith)
    (by simpa [sigma_of_ask hask] using premiumGuard_slack o hguard)
    (fun x => by rw [add_zero]; exact perMatch_linear_of_ask fs hask x) (matchDebit_le_of_ask fs hask)

/-- the chain fee of a batch with `k` channels is at most `k` single-channel fees (the fee floor is 253 ≥ 5; `k ≤ 10^7`
is far below the `uint32` wrap of the weight) -/
theorem traderFee_subadditive (k feeRate ver : Nat) (hk : 1 ≤ k) (hf : 5 ≤ feeRate) (hw : k ≤ 10 ^ 7) :
    estimateTraderFee k feeRate ver ≤ k * estimateTraderFee 1 feeRate ver :=
  traderFee_subadditive_aux k feeRate ver hk hf hw

/-- **Archived orders reserve nothing**, whatever their other terms (even a zero minimum match does not panic);
archived = the regenerated `State.Archived` table = {executed, canceled, expired, failed}. -/
theorem C11_archived_zero (fs : FeeSchedule) (o : Order) (ver : Nat) (h : archived o.state = true) :
    orderReservedValue fs o ver = .ok 0 := by
  rw [orderReservedValue_eq]; exact reservedValue_archived _ _ _ h

theorem C11_archived_table :
    (orderStates.filter archived) = [3, 4, 5, 6] ∧ archived stateSubmitted = false ∧
      archived stateCleared = false ∧ archived statePartiallyFilled = false := by decide

/-- an active order with `MinUnitsMatch = 0` makes `ReservedValue` divide by zero -/
theorem C11_min_zero_panics (fs : FeeSchedule) (o : Order) (ver : Nat) (h : archived o.state = false)
    (h0 : o.minUnitsMatch = 0) : orderReservedValue fs o ver = .panic := by
  rw [orderReservedValue_eq]; exact reservedValue_min_zero _ _ _ h h0

/-- **Acceptance implies coverage.** If `validateOrder` accepts, no `ReservedValue` panicked and the account value is at
least the new order's reserved value plus those of exactly that account's stored orders. -/
theorem C11_accept_implies_covered (db : List Order) (o : Order) (acct : Account) (t : Terms)
    (h : validateOrder db o acct t = .ok) :
    feePerKwFloor ≤ o.maxBatchFeeRate ∧ t.buckets.contains o.leaseDuration = true ∧
    ∃ r0 : Int, orderReservedValue ⟨t.baseFee, t.feeRate⟩ o acct.version = .ok r0 ∧
      r0 + ((db.filter (fun x => x.acctKey = acct.key)).map (reservedOf ⟨t.baseFee, t.feeRate⟩ acct.version)).sum
        ≤ (acct.value : Int) ∧
      ∀ x ∈ db, x.acctKey = acct.key → orderReservedValue ⟨t.baseFee, t.feeRate⟩ x acct.version ≠ .panic := by
  obtain ⟨hb, hf, r0, rs, hr0, hrs, hcmp⟩ := validateOrder_compares (Or.inl h)
  obtain ⟨e, hp⟩ := sumReserved_some _ acct db rs hrs
  refine ⟨hf, hb, r0, hr0, ?_, hp⟩
  rw [h] at hcmp
  split_ifs at hcmp with hlt
  rw [← e]; omega

/-- `ErrInsufficientBalance` only when the account value really does not cover the sum -/
theorem C11_insufficient_only_if_uncovered (db : List Order) (o : Order) (acct : Account) (t : Terms)
    (h : validateOrder db o acct t = .errInsufficient) :
    ∃ r0 rs : Int, orderReservedValue ⟨t.baseFee, t.feeRate⟩ o acct.version = .ok r0 ∧
      sumReserved ⟨t.baseFee, t.feeRate⟩ acct db = some rs ∧ (acct.value : Int) < r0 + rs := by
  obtain ⟨_, _, r0, rs, hr0, hrs, hcmp⟩ := validateOrder_compares (Or.inr h)
  refine ⟨r0, rs, hr0, hrs, ?_⟩
  rw [h] at hcmp
  split_ifs at hcmp with hlt
  exact hlt

theorem C11_other_accounts_not_counted (db : List Order) (o : Order) (acct : Account) (t : Terms) :
    validateOrder db o acct t = validateOrder (db.filter (fun x => x.acctKey = acct.key)) o acct t := by
  simp only [validateOrder]
  rw [sumReserved_filter]

/-- one order of the account with the batches it is matched in: archived orders are not matched; active ones meet the
    hypotheses of the two reserve theorems but for `hmin` (acceptance already excludes the division by zero) -/
def OrderPlanOk' (ver : Nat) (x : Order) (bs : List BatchFills) : Prop :=
  (archived x.state = true ∧ bs = []) ∨
  (archived x.state = false ∧ premiumGuard x = true ∧ feePerKwFloor ≤ x.maxBatchFeeRate ∧
    ((x.isBid = true ∧ Admissible x ver (· ≤ x.fixedRate) bs) ∨
     (x.isBid = false ∧ askGuard x ∧ Admissible x ver (x.fixedRate ≤ ·) bs)))

theorem order_plan_covered (fs : FeeSchedule) (ver : Nat) (x : Order) (bs : List BatchFills)
    (h : OrderPlanOk' ver x bs) (hnp : orderReservedValue fs x ver ≠ .panic) :
    totalDebit fs x bs ≤ reservedOf fs ver x + 2 * (totalFills bs : Int) := by
  rcases h with ⟨ha, rfl⟩ | ⟨hna, hg, hfl, hside⟩
  · simp [reservedOf_of_ok (C11_archived_zero fs x ver ha), totalDebit, totalFills]
  · have hmin : 0 < x.minUnitsMatch := Nat.pos_of_ne_zero fun h0 => hnp (C11_min_zero_panics fs x ver hna h0)
    rcases hside with hb | ha
    · obtain ⟨R, hR, hle⟩ := C11_bid_reserve_covers fs x ver bs hb.1 hna hmin hg hfl hb.2
      rwa [reservedOf_of_ok hR]
    · obtain ⟨R, hR, hle⟩ := C11_ask_reserve_covers fs x ver bs ha.1 hna hmin ha.2.1 hg hfl ha.2.2
      rwa [reservedOf_of_ok hR]

/-- **Orders never over-commit an account.** If `validateOrder` accepted `o`, then whatever admissible batches `o` and
the account's stored orders are later matched in (`plan` pairs each with its batches), the verifier debits in total at
most the account value plus 2 sat per match. Each order is charged the chain fee of its own batches; that two orders of
the account matched in one batch share one chain fee is not modelled. -/
theorem C11_accept_never_overcommits (db : List Order) (o : Order) (acct : Account) (t : Terms)
    (hacc : validateOrder db o acct t = .ok)
    (plan : List (Order × List BatchFills))
    (hplan : plan.map (·.1) = o :: db.filter (fun x => x.acctKey = acct.key))
    (hok : ∀ p ∈ plan, OrderPlanOk' acct.version p.1 p.2) :
    (plan.map (fun p => totalDebit ⟨t.baseFee, t.feeRate⟩ p.1 p.2)).sum
      ≤ (acct.value : Int) + 2 * ((plan.map (fun p => totalFills p.2)).sum : Nat) := by
  obtain ⟨_, _, r0, hr0, hcov, hnp⟩ := C11_accept_implies_covered db o acct t hacc
  -- no order of the plan panics, so each is covered by its own reserved value
  have hone : ∀ p ∈ plan, totalDebit ⟨t.baseFee, t.feeRate⟩ p.1 p.2 ≤
      reservedOf ⟨t.baseFee, t.feeRate⟩ acct.version p.1 + 2 * (totalFills p.2 : Int) := by
    intro p hp
    refine order_plan_covered _ _ _ _ (hok p hp) ?_
    have hmem : p.1 ∈ o :: db.filter (fun x => x.acctKey = acct.key) := by
      rw [← hplan]; exact List.mem_map_of_mem hp
    rcases List.mem_cons.1 hmem with h | h
    · rw [h, hr0]; simp
    · have := List.mem_filter.1 h
      exact hnp p.1 this.1 (by simpa using this.2)
  have h := sum_le_sum_add_mul 2 plan _ (reservedOf ⟨t.baseFee, t.feeRate⟩ acct.version ∘ (·.1)) _ hone
  rw [← List.map_map, hplan] at h
  simp only [List.map_cons, List.sum_cons, reservedOf_of_ok hr0] at h
  omega

/-- the version clause of `Admissible` holds when the account only moves up through `account.ValidateVersion`'s list
after the reserve was computed, and always for a legacy account. -/
theorem C11_version_clause (ver : Nat) (bs : List BatchFills)
    (h : ∀ b ∈ bs, ver = 0 ∨ (ver ∈ knownAccountVersions ∧ b.ver ∈ knownAccountVersions ∧ ver ≤ b.ver)) :
    ∀ b ∈ bs, traderWitness b.ver ≤ traderWitness ver := by
  intro b hb
  rcases h b hb with rfl | ⟨h1, h2, h3⟩
  · exact traderWitness_le_legacy _
  · exact traderWitness_upgrade _ h1 _ h2 h3

theorem C11_reserved_closed_form (fs : FeeSchedule) (o : Order) (ver : Nat)
    (hna : archived o.state = false) (hm : 0 < o.minUnitsMatch) :
    orderReservedValue fs o ver =
      .ok (if closedBalanceDelta fs o ver < 0 then -closedBalanceDelta fs o ver else 0) :=
  orderReservedValue_closed fs o ver hna hm

/-- **No `int64` overflow inside the domain**: every integer Go computes on the way to `ReservedValue` is in range (the
float premiums are ≤ 2^49, far below the 2^63 limit of the float→int conversion), so the model's unbounded arithmetic is
Go's there. -/
theorem C11_no_int64_overflow (fs : FeeSchedule) (o : Order) (ver : Nat)
    (hD : inDomain fs o = true) (hm : 0 < o.minUnitsMatch) :
    ∀ v ∈ reservedIntermediates fs o ver, -(2 : Int) ^ 63 ≤ v ∧ v < (2 : Int) ^ 63 :=
  reserved_intermediates_in64 fs o ver hD hm

/-- **No overflow of the running sum of `validateOrder`** (its variable `reserved`) with at most three stored orders of
the account. Beyond four evaluated orders of maximal size the `int64` sum can really wrap; the driver answers `ood`
there. -/
theorem C11_validate_sum_no_overflow (fs : FeeSchedule) (db : List Order) (o : Order) (acct : Account)
    (ho : archived o.state = true ∨ (inDomain fs o = true ∧ 0 < o.minUnitsMatch))
    (hdb : ∀ x ∈ db, x.acctKey = acct.key → archived x.state = true ∨ (inDomain fs x = true ∧ 0 < x.minUnitsMatch))
    (hn : (db.filter (fun x => x.acctKey = acct.key)).length ≤ 3) :
    ∀ v ∈ reservedOf fs acct.version o :: runningSums fs acct (reservedOf fs acct.version o) db,
      0 ≤ v ∧ v < (2 : Int) ^ 63 := by
  have h0 := reservedOf_bounds fs o acct.version ho
  intro v hv
  rcases List.mem_cons.1 hv with rfl | hv
  · exact ⟨h0.1, by omega⟩
  · obtain ⟨h1, h2⟩ := runningSums_bound fs acct db (22 * 10 ^ 17)
      (fun x hx hk => reservedOf_bounds fs x acct.version (hdb x hx hk)) _ v hv
    -- at most four orders, each at most 2.2·10^18
    constructor <;> omega

/-- `runningSums` is the trace of the sum `validateOrder` compares with the account value -/
theorem C11_validate_sum_total (fs : FeeSchedule) (acct : Account) (db : List Order) (r0 rs : Int)
    (h : sumReserved fs acct db = some rs) :
    (r0 :: runningSums fs acct r0 db).getLast? = some (r0 + rs) := by
  induction db using store_induction fs acct generalizing r0 rs with
  | nil => simp [sumReserved] at h; simp [runningSums, ← h]
  | other x rest hk ih => rw [sumReserved_other hk] at h; rw [runningSums_other hk]; exact ih r0 rs h
  | panic x rest hk hx => simp [sumReserved_panic hk hx] at h
  | ok x rest v hk hx ih =>
    rw [sumReserved_ok hk hx] at h
    obtain ⟨r, hr, rfl⟩ := Option.map_eq_some_iff.1 h
    rw [runningSums_ok hk hx, List.getLast?_cons_cons, ih (r0 + v) r hr, add_assoc]

/-- the clauses of `Admissible` other than `total`, which the verifier's unit check gives -/
def BatchOk (o : Order) (ver : Nat) (priceOk : Nat → Prop) (b : BatchFills) : Prop :=
  (∀ f ∈ b.fills, o.minUnitsMatch ≤ f.units ∧ priceOk f.price) ∧ b.feeRate ≤ o.maxBatchFeeRate ∧
  traderWitness b.ver ≤ traderWitness ver ∧ 1 ≤ b.fills.length ∧ b.fills.length ≤ 10 ^ 7

theorem admissible_of_verified (o : Order) (ver : Nat) (priceOk : Nat → Prop) (b : BatchFills)
    (hb : BatchOk o ver priceOk b) (hv : verifyUnitsOk o (fillsUnits b.fills) = true) :
    Admissible o ver priceOk [b] := by
  obtain ⟨h1, h2, h3, h4, h5⟩ := hb
  have hle : fillsUnits b.fills ≤ o.unitsUnfulfilled := by
    unfold verifyUnitsOk at hv
    simp only [Bool.and_eq_true, Bool.not_eq_true', decide_eq_false_iff_not] at hv
    omega
  exact ⟨by simpa using h1, by simpa using h2, by simpa using h3, by simpa using And.intro h4 h5,
    by simpa [totalUnits] using hle⟩

/-- **A batch that passes the verifier's unit check debits at most the order's reserve plus 2 sat per match**, also
when earlier batches filled the order in part: `ReservedValue` is computed from the units LEFT, and the verifier
bounds the units of the batch by the same `UnitsUnfulfilled` (`verifyUnitsOk`). -/
theorem C11_verified_batch_within_reserve_bid (fs : FeeSchedule) (o : Order) (ver : Nat) (b : BatchFills)
    (hbid : o.isBid = true) (hact : archived o.state = false) (hmin : 0 < o.minUnitsMatch)
    (hguard : premiumGuard o = true) (hfloor : feePerKwFloor ≤ o.maxBatchFeeRate)
    (hb : BatchOk o ver (· ≤ o.fixedRate) b) (hv : verifyUnitsOk o (fillsUnits b.fills) = true) :
    ∃ R : Int, orderReservedValue fs o ver = .ok R ∧ batchDebit fs o b ≤ R + 2 * (b.fills.length : Int) :=
  ReserveCovers.single (C11_bid_reserve_covers fs o ver [b] hbid hact hmin hguard hfloor
    (admissible_of_verified o ver _ b hb hv))

theorem C11_verified_batch_within_reserve_ask (fs : FeeSchedule) (o : Order) (ver : Nat) (b : BatchFills)
    (hask : o.isBid = false) (hact : archived o.state = false) (hmin : 0 < o.minUnitsMatch)
    (hag : askGuard o) (hguard : premiumGuard o = true) (hfloor : feePerKwFloor ≤ o.maxBatchFeeRate)
    (hb : BatchOk o ver (o.fixedRate ≤ ·) b) (hv : verifyUnitsOk o (fillsUnits b.fills) = true) :
    ∃ R : Int, orderReservedValue fs o ver = .ok R ∧ batchDebit fs o b ≤ R + 2 * (b.fills.length : Int) :=
  ReserveCovers.single (C11_ask_reserve_covers fs o ver [b] hask hact hmin hag hguard hfloor
    (admissible_of_verified o ver _ b hb hv))

/-- the verifier's bound has to be the REMAINING units: a bid of 10 units (minimum 2) with 4 left reserves 10550 sat,
    while a batch matching 8 – within the original size – debits 17305. -/
def partialFillWitness : Order := ⟨true, 0, 2, 2, 20000, 1000000, 10, 4, 2, 253, 1000, 0, 0⟩

theorem C11_overfill_bound_needed :
    verifyUnitsOk partialFillWitness 8 = false ∧ (8 : Nat) ≤ partialFillWitness.units ∧
    BatchOk partialFillWitness 0 (· ≤ partialFillWitness.fixedRate) ⟨253, 0, [⟨8, 20000, 0⟩]⟩ ∧
    orderReservedValue ⟨1100, 50⟩ partialFillWitness 0 = .ok 10550 ∧
    batchDebit ⟨1100, 50⟩ partialFillWitness ⟨253, 0, [⟨8, 20000, 0⟩]⟩ = 17305 := by
  unfold BatchOk
  decide

/-- the property for bids as its text reads: no fee-floor, minimum-match or premium-magnitude guard -/
def C11_bid_full_statement : Prop :=
  ∀ (fs : FeeSchedule) (o : Order) (ver : Nat) (bs : List BatchFills), o.isBid = true → archived o.state = false →
    Admissible o ver (· ≤ o.fixedRate) bs → ReserveCovers fs o ver bs

/-- a 4-unit bid, minimum match 1, **maximum batch fee rate 0**, no base fee: one fill of all 4 units costs 5 sat (premium
    3 + execution fee 2), four minimum fills cost 0 each: reserve 0, tolerance for one match 2. `validateOrder` never
    admits such an order (`MaxBatchFeeRate < FeePerKwFloor`). -/
def feeFloorWitness : Order := ⟨true, 0, 2, 0, 75, 400000, 4, 4, 1, 0, 100, 0, 0⟩

theorem feeFloorWitness_admissible :
    Admissible feeFloorWitness 0 (· ≤ feeFloorWitness.fixedRate) [⟨0, 0, [⟨4, 75, 0⟩]⟩] := by
  decide

/-- the 2-sat-per-match tolerance cannot hold without a lower bound on the per-match fee: hence `hfloor` in
    `C11_bid_reserve_covers` (`hmin`: else the Go code divides by zero; `hguard`: float error below ½ sat). -/
theorem C11_bid_full_statement_false : ¬ C11_bid_full_statement := by
  intro h
  exact not_reserveCovers (R := 0) (D := 5) (by decide) (by decide) (by decide)
    (h ⟨0, 7⟩ feeFloorWitness 0 [⟨0, 0, [⟨4, 75, 0⟩]⟩] rfl (by decide) feeFloorWitness_admissible)

/-- the ask guard cannot be dropped: an ask at 100.07 % premium (3 units, minimum 2, fee floor rate) is debited 25 sat
    by a 2-unit fill although its reserve is 0. -/
def askGuardWitness : Order := ⟨false, 0, 2, 0, 1000700, 300000, 3, 3, 2, 253, 1000, 0, 0⟩

theorem C11_ask_guard_needed :
    ¬ askGuard askGuardWitness ∧ premiumGuard askGuardWitness = true ∧
    Admissible askGuardWitness 0 (askGuardWitness.fixedRate ≤ ·) [⟨253, 0, [⟨2, 1000700, 0⟩]⟩] ∧
    ¬ ReserveCovers ⟨0, 0⟩ askGuardWitness 0 [⟨253, 0, [⟨2, 1000700, 0⟩]⟩] := by
  exact ⟨by decide, by decide, by decide,
    not_reserveCovers (R := 0) (D := 25) (by decide) (by decide) (by decide)⟩

/-- the premium-magnitude guard cannot be dropped: a 3-match bid with a premium of about 2^61 sat (no `int64` overflow
    anywhere) is debited by one fill of everything 54 sat more than its reserve: `3·LumpSumPremium(m)` and
    `LumpSumPremium(3m)` round differently. Reproduced on the Go code (corpus). -/
def premiumGuardWitness : Order :=
  ⟨true, 0, 2, 0, 2965729243, 5631900000, 56319, 56319, 18773, 253, 138052190, 0, 0⟩

theorem C11_premium_guard_needed :
    premiumGuard premiumGuardWitness = false ∧ feePerKwFloor ≤ premiumGuardWitness.maxBatchFeeRate ∧
    Admissible premiumGuardWitness 0 (· ≤ premiumGuardWitness.fixedRate) [⟨253, 0, [⟨56319, 2965729243, 0⟩]⟩] ∧
    ¬ ReserveCovers ⟨0, 0⟩ premiumGuardWitness 0 [⟨253, 0, [⟨56319, 2965729243, 0⟩]⟩] := by
  exact ⟨by decide, by decide, by decide,
    not_reserveCovers (R := 2305843005682364271) (D := 2305843005682364325) (by decide) (by decide) (by decide)⟩

def exBid : Order := ⟨true, 0, 2, 2, 5000, 1000000, 10, 7, 2, 1000, 2016, 0, 0⟩
def exAsk : Order := ⟨false, 1, 2, 0, 5000, 1000000, 10, 7, 2, 1000, 2016, 0, 0⟩
def exFs : FeeSchedule := ⟨1, 1000⟩
def exBidBatches : List BatchFills := [⟨800, 0, [⟨2, 4000, 0⟩, ⟨3, 4000, 0⟩]⟩, ⟨1000, 1, [⟨2, 5000, 0⟩]⟩]
def exAskBatches : List BatchFills := [⟨800, 0, [⟨2, 6000, 100000⟩, ⟨3, 6000, 0⟩]⟩, ⟨1000, 1, [⟨2, 5000, 0⟩]⟩]

/-- `C11_bid_reserve_covers`: a partially filled bid in two batches, the second after a taproot upgrade -/
example : exBid.isBid = true ∧ archived exBid.state = false ∧ 0 < exBid.minUnitsMatch ∧ premiumGuard exBid = true ∧
    feePerKwFloor ≤ exBid.maxBatchFeeRate ∧ Admissible exBid 0 (· ≤ exBid.fixedRate) exBidBatches ∧
    orderReservedValue exFs exBid 0 = .ok 9718 ∧ totalDebit exFs exBid exBidBatches = 7829 := by
  decide

/-- `C11_ask_reserve_covers`: an outbound-market ask -/
example : exAsk.isBid = false ∧ archived exAsk.state = false ∧ 0 < exAsk.minUnitsMatch ∧ askGuard exAsk ∧
    premiumGuard exAsk = true ∧ feePerKwFloor ≤ exAsk.maxBatchFeeRate ∧
    Admissible exAsk 0 (exAsk.fixedRate ≤ ·) exAskBatches ∧
    orderReservedValue exFs exAsk 0 = .ok 695606 ∧ totalDebit exFs exAsk exAskBatches = 692510 := by
  decide

/-- `traderFee_subadditive` at realistic values -/
example : (1 : Nat) ≤ 3 ∧ (5 : Nat) ≤ 253 ∧ estimateTraderFee 3 253 0 = 208 ∧ 3 * estimateTraderFee 1 253 0 = 495 := by
  decide

/-- `C11_archived_zero`: a canceled order with a zero minimum match -/
example : archived (4 : Nat) = true ∧ orderReservedValue exFs { exBid with state := 4, minUnitsMatch := 0 } 0 = .ok 0 := by
  decide

/-- `C11_accept_never_overcommits`: `hplan` and `hok` for the accepted case below -/
example : ([(exBid, exBidBatches), (exAsk, exAskBatches)].map (·.1) =
      exBid :: [exAsk, { exBid with acctKey := 1 }].filter (fun x => x.acctKey = (⟨0, 2000000, 0⟩ : Account).key)) ∧
    OrderPlanOk' 0 exBid exBidBatches ∧ OrderPlanOk' 0 exAsk exAskBatches := by
  unfold OrderPlanOk'
  decide

/-- `C11_accept_implies_covered` / `C11_insufficient_only_if_uncovered`; one stored order is of another account -/
example : validateOrder [exAsk, { exBid with acctKey := 1 }] exBid ⟨0, 2000000, 0⟩ ⟨1, 1000, [2016]⟩ = .ok ∧
    validateOrder [exAsk, { exBid with acctKey := 1 }] exBid ⟨0, 700000, 0⟩ ⟨1, 1000, [2016]⟩ = .errInsufficient := by
  decide

/-- `C11_version_clause`: a taproot account (version 1) upgraded to version 2 before the second batch -/
example : ∀ b ∈ ([⟨800, 1, [⟨2, 4000, 0⟩]⟩, ⟨900, 2, [⟨2, 4000, 0⟩]⟩] : List BatchFills),
    (1 : Nat) = 0 ∨ (1 ∈ knownAccountVersions ∧ b.ver ∈ knownAccountVersions ∧ 1 ≤ b.ver) := by decide

/-- `C11_no_int64_overflow` / `C11_reserved_closed_form`: inside the domain, remainder branch -/
example : inDomain exFs exBid = true ∧ 0 < exBid.minUnitsMatch ∧ archived exBid.state = false ∧
    closedBalanceDelta exFs exBid 0 = -9718 ∧ (reservedIntermediates exFs exBid 0).length = 32 := by decide

/-- `C11_validate_sum_no_overflow`: the accepted case above -/
example : (archived exBid.state = true ∨ (inDomain exFs exBid = true ∧ 0 < exBid.minUnitsMatch)) ∧
    (∀ x ∈ [exAsk, { exBid with acctKey := 1 }], x.acctKey = 0 →
      archived x.state = true ∨ (inDomain exFs x = true ∧ 0 < x.minUnitsMatch)) ∧
    ([exAsk, { exBid with acctKey := 1 }].filter (fun x => x.acctKey = 0)).length ≤ 3 ∧
    runningSums exFs ⟨0, 2000000, 0⟩ 9718 [exAsk, { exBid with acctKey := 1 }] = [705324] := by decide

/-- `C11_verified_batch_within_reserve_bid`: 7 of 10 units left, a batch matching 2 + 3 -/
example : BatchOk exBid 0 (· ≤ exBid.fixedRate) ⟨800, 0, [⟨2, 4000, 0⟩, ⟨3, 4000, 0⟩]⟩ ∧
    verifyUnitsOk exBid (fillsUnits [⟨2, 4000, 0⟩, ⟨3, 4000, 0⟩]) = true ∧ exBid.unitsUnfulfilled < exBid.units := by
  unfold BatchOk
  decide

end Pool.C11
