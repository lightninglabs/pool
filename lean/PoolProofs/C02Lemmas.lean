import PoolProofs.BatchLemmas
/-! Helper lemmas of C02: the account-diff loop, the ending-state validation, and the agreement of the model's
wrapped `int64` arithmetic with the integer formulas of the spec inside the overflow guard.  At the end the property
itself, `C02_full_statement`, and what refutes it. -/
namespace Pool.Batch

theorem validateEndingState_ok {env : Env} {outs : List TxOut} {acct : Acct} {d : Diff}
    (h : validateEndingState env outs acct d = .ok ()) :
    if d.endingBalance < env.minNoDust then
      d.outpointIndex < 0 ∧ d.endingState ∈ Pool.Gen.Batch.dustEndingStates
    else
      d.endingState = Pool.Gen.Batch.recreatedEndingState ∧ 0 ≤ d.outpointIndex ∧
      ∃ out, outs[d.outpointIndex.toNat]? = some out ∧ out.value = d.endingBalance ∧
        env.acctScript acct.key (scriptVersion acct.version) acct.expiry = some out.script := by
  unfold validateEndingState at h
  by_cases hd : d.endingBalance < env.minNoDust <;> simp only [hd, if_true, if_false, ite_error_eq_ok] at h ⊢
  · exact ⟨by omega, by simpa using h.1⟩
  · obtain ⟨hs, hi, _, h⟩ := h
    cases hout : outs[d.outpointIndex.toNat]? with
    | none => simp [hout] at h
    | some out =>
      cases hs' : env.acctScript acct.key (scriptVersion acct.version) acct.expiry with
      | none => simp only [hout, hs', ite_error_eq_ok] at h; exact nomatch h.2
      | some s =>
        simp only [hout, hs', ite_error_eq_ok, and_true] at h
        refine ⟨by simpa using hs, by omega, out, rfl, by simpa using h.1, ?_⟩
        rw [show out.script = s by simpa using h.2]

/-- When duplicate diffs are rejected, every diff of an accepted diff loop passed its checks against the tallies
*before* the loop. -/
theorem DiffsOk.forall_of_rejectDuplicates {env : Env} {rules : Rules} {b : Batch} {best : UInt32}
    (hr : rules.rejectDuplicateDiffs = true) {ds : List Diff} {f : Key → Option Entry} {seen : List Key}
    (h : DiffsOk env rules b best f seen ds) :
    (∀ d ∈ ds, d.acctKey ∉ seen ∧ ∃ e, f d.acctKey = some e ∧ DiffChecks env rules b best d e) ∧
      (ds.map (·.acctKey)).Nodup := by
  induction ds generalizing f seen with
  | nil => simp
  | cons d rest ih =>
    obtain ⟨hns, e, he, hc, h⟩ := h
    obtain ⟨hrest, hnd⟩ := ih h
    have hfresh : ∀ d' ∈ rest, d'.acctKey ≠ d.acctKey := fun d' hd' heq =>
      (hrest d' hd').1 (heq ▸ List.mem_cons_self)
    refine ⟨List.forall_mem_cons.mpr ⟨⟨hns hr, e, he, hc⟩, fun d' hd' => ?_⟩, ?_⟩
    · obtain ⟨hn, e', he', hc'⟩ := hrest d' hd'
      exact ⟨fun hm => hn (List.mem_cons_of_mem _ hm), e', by rwa [if_neg (hfresh d' hd')] at he', hc'⟩
    · simp only [List.map_cons, List.nodup_cons, List.mem_map, not_exists, not_and]
      exact ⟨fun d' hd' => hfresh d' hd', hnd⟩

theorem witnessSize_le (v : Nat) : (if v = 1 ∨ v = 2 then 66 else 229) ≤ 229 := by split <;> decide

theorem estimateTraderFee_spec (n : Nat) (feeRate : Int) (v : Nat) (hn : 43 * n + 1 < 2 ^ 32)
    (hf : I64 (feeRate * ((4 * (84 + (43 * n + 1) / 2) + (if v = 1 ∨ v = 2 then 66 else 229) : Nat) : Int))) :
    estimateTraderFee n feeRate v = specChainFee n feeRate v := by
  have h2 : u32 (43 * n + 1) = 43 * n + 1 := Nat.mod_eq_of_lt hn
  have hc : Pool.Gen.Batch.taprootWitnessVersions.contains v = decide (v = 1 ∨ v = 2) := by
    simp [Pool.Gen.Batch.taprootWitnessVersions]
  have hwit (x : Int) : (if v = 1 ∨ v = 2 then w64 (x + (66 : Nat)) else w64 (x + (229 : Nat))) =
      w64 (x + ((if v = 1 ∨ v = 2 then 66 else 229 : Nat) : Int)) := by split <;> rfl
  have hle := witnessSize_le v
  unfold estimateTraderFee specChainFee
  simp only [Pool.Gen.Batch.p2wshOutputSize, Pool.Gen.Batch.inputSize, Pool.Gen.Batch.witnessScaleFactor,
    Pool.Gen.Batch.taprootMultiSigWitnessSize, Pool.Gen.Batch.multiSigWitnessSize, show u32 43 = 43 from rfl, h2, hc,
    decide_eq_true_eq, hwit]
  -- with the casts pushed outwards the weight is a natural number below 2^63 at every step: no `w64` changes it
  rw [show (2 : Int) = ((2 : Nat) : Int) from rfl, ← Int.ofNat_tdiv, ← Int.natCast_add, w64_natCast (by omega),
    ← Int.natCast_mul, w64_natCast (by omega), ← Int.natCast_add, w64_natCast (by omega), Nat.mul_comm, w64_eq_self hf]

theorem executionFee_spec (b : Batch) (amt : Int) (h1 : I64 (amt * b.execRate)) (h2 : I64 (specExecFee b amt)) :
    executionFee b.execBase b.execRate amt = specExecFee b amt := by
  unfold executionFee scheduleExecutionFee
  simp only [Pool.Gen.Batch.feeRatePartsPerMillion]
  rw [w64_eq_self h1]
  exact w64_eq_self h2

theorem matchDelta_spec {env : Env} {b : Batch} {o : Ours} {t : Their} (hdur : t.duration = o.duration)
    (hg : MatchGuard b o t) :
    matchDelta env b o (clearingPrice b o.duration) t = w64 (specMatchDelta env b o t) := by
  obtain ⟨hu, hself, hmul, hfee⟩ := hg
  have hp : (if (o.auctionType == Pool.Gen.Batch.btcOutboundLiquidity) = true then w64 (unitsSat t + bidSelfBalance o t)
      else unitsSat t) = premiumBase o t := by
    unfold premiumBase outboundMarket
    by_cases ho : o.auctionType = 1
    · simp only [ho, Pool.Gen.Batch.btcOutboundLiquidity, beq_self_eq_true, if_true]
      exact w64_eq_self hself
    · simp [ho, Pool.Gen.Batch.btcOutboundLiquidity]
  unfold matchDelta specMatchDelta
  simp only [toSatoshis_spec t hu]
  cases hA : o.isAsk with
  | true =>
    simp only [hA, if_true, bidSelfBalance] at hp hmul hfee ⊢
    simp only [makerDelta, hp, hdur, executionFee_spec b _ hmul hfee]
    rw [w64_sub_left, Int.add_sub_assoc, w64_add_left]
    congr 1; omega
  | false =>
    simp only [hA, Bool.false_eq_true, if_false, bidSelfBalance] at hp hmul hfee ⊢
    simp only [takerDelta, hp, executionFee_spec b _ hmul hfee]
    rw [w64_sub_left, Int.sub_sub, w64_sub_left]
    congr 1; omega

theorem mem_contribs {env : Env} {k : Key} {l : List (Nonce × List Their)} {c : Ours × List Their}
    (h : c ∈ contribs env k l) : ∃ nm ∈ l, findOrder nm.1 env.orders = some c.1 ∧ c.1.acctKey = k ∧ c.2 = nm.2 := by
  obtain ⟨nm, hnm, hc⟩ := List.mem_filterMap.mp h
  refine ⟨nm, hnm, ?_⟩
  split at hc
  · rename_i o ho
    split at hc <;> cases hc
    exact ⟨ho, ‹_›, rfl⟩
  · cases hc

theorem w64_tallyBal {env : Env} {b : Batch} {δ : Ours → Their → Int} {cs : List (Ours × List Their)}
    (h : ∀ c ∈ cs, ∀ t ∈ c.2, w64 (matchDelta env b c.1 (clearingPrice b c.1.duration) t) = w64 (δ c.1 t)) (v : Int) :
    w64 (tallyBal env b v cs) = w64 (v + (cs.map fun c => (c.2.map (δ c.1)).sum).sum) := by
  induction cs generalizing v with
  | nil => simp [tallyBal]
  | cons c cs ih =>
    simp only [tallyBal, List.foldl_cons, List.map_cons, List.sum_cons, List.forall_mem_cons] at ih h ⊢
    rw [ih h.2, ← Int.add_assoc]
    exact w64_add_congr ((w64_foldW ..).trans (w64_add_congr rfl (w64_sum_congr h.1))) rfl

theorem balance_spec {env : Env} {b : Batch} (hg : NoOverflow env b) (hacc : ∀ nm ∈ b.matched, OrderAccept env b nm)
    {a : Acct} (ha : a ∈ env.accounts) :
    w64 (tallyBal env b a.value (chargedTo env b a.key) -
        estimateTraderFee (u32 ((chargedTo env b a.key).map (·.2.length)).sum) b.feeRate a.version) =
      w64 (specEndingBalance env b a) := by
  obtain ⟨hn, hfeeI⟩ := hg.2 a ha
  have hbal := w64_tallyBal (δ := specMatchDelta env b) (cs := chargedTo env b a.key) (fun c hc t ht => by
    obtain ⟨nm, hnm, ho, _, hts⟩ := mem_contribs hc
    obtain ⟨o', ho', _, hok⟩ := hacc nm hnm
    cases ho.symm.trans ho'
    have htm : t ∈ nm.2 := hts ▸ ht
    rw [matchDelta_spec (validateMatchedOrder_duration (hok.matchesOk t htm).1)
      (hg.1 nm hnm c.1 (by rw [ho]; simp) t htm), w64_w64]) a.value
  rw [← w64_sub_left, hbal, w64_sub_left, show u32 _ = _ from Nat.mod_eq_of_lt (by omega),
    estimateTraderFee_spec _ _ _ hn hfeeI]
  rfl

theorem endingClause_of_checks {env : Env} {b : Batch} {best : UInt32} {d : Diff} {e : Entry}
    (h : DiffChecks env Rules.fixed b best d e) : EndingClause env b best e.acct d := by
  obtain ⟨_, hexp, hver, hves⟩ := h
  have hv := validateEndingState_ok hves
  unfold EndingClause
  split <;> rename_i hdust <;> simp only [hdust, if_true, if_false] at hv
  · exact ⟨hv.1, by simpa [Pool.Gen.Batch.dustEndingStates] using hv.2⟩
  · obtain ⟨hs, hi, out, hout, hval, hscr⟩ := hv
    refine ⟨by simpa [Pool.Gen.Batch.recreatedEndingState] using hs, hi, out, hout, hval, hscr, fun hne => ?_, fun hne => ?_⟩
    · unfold newVersionOf at hne ⊢
      split at hne
      · rename_i hc
        simpa [hc, supportedVersions, validateVersion, Pool.Gen.Batch.validAccountVersions] using hver rfl hc
      · exact absurd rfl hne
    · unfold newExpiryOf at hne ⊢
      split at hne
      · rename_i hc
        simpa [hc, maxLifetime, Pool.Gen.Batch.maxAccountExpiry] using hexp rfl hc
      · exact absurd rfl hne

theorem EndingClause.bounds {env : Env} {b : Batch} {best : UInt32} {a : Acct} {d : Diff}
    (h : EndingClause env b best a d) (hd : ¬ d.endingBalance < env.minNoDust) :
    (newVersionOf b a d ≠ a.version → newVersionOf b a d ∈ supportedVersions) ∧
      (newExpiryOf b a d ≠ a.expiry → newExpiryOf b a d ≤ best.toNat + maxLifetime) := by
  unfold EndingClause at h
  rw [if_neg hd] at h
  obtain ⟨_, _, _, _, _, _, hbounds⟩ := h
  exact hbounds

theorem exAcct_of {a : Acct} (h : findAcct "A" exEnv.accounts = some a) :
    a = { key := "A", value := 1000000, expiry := 5000, version := 0 } := by
  simp [exEnv, findAcct] at h; exact h.symm

/-- the guard looks at the matches, the fee parameters and the accounts only: it also covers `exBatchExp`, `exBatchVer`
and `exBatchDup`, which differ from `exBatch` in diffs and outputs -/
theorem exBatch_noOverflow : NoOverflow exEnv exBatch := by decide

end Pool.Batch

namespace Pool.C02
open Pool.Batch

def C02_full_statement (rules : Rules) : Prop :=
  ∀ (env : Env) (b : Batch) (best : UInt32) (st : Tallies), NoOverflow env b →
    verify env rules b best = .ok st → ∀ d ∈ b.diffs, ChargedExactly env b best d

theorem not_full_statement_of_witness {rules : Rules} {env : Env} {b : Batch} {best : UInt32} {d : Diff}
    (hg : NoOverflow env b) (hok : isOk (verify env rules b best) = true) (hd : d ∈ b.diffs)
    (hn : ¬ ChargedExactly env b best d) : ¬ C02_full_statement rules := fun h =>
  have ⟨st, hv⟩ := isOk_iff.mp hok
  hn (h env b best st hg hv d hd)

end Pool.C02
