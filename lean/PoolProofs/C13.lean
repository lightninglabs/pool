import PoolProofs.C06
import PoolProofs.C13Lemmas

/-!
# C13 — completed batches update order fill state exactly

Headline theorems: one batch (`C13_fill_exact`) and every history of batches (`C13_sequences`).  The model of
`batchStorer.StorePendingBatch` computes the order modifiers from the matched units and hands them to C06's
`StorePendingBatch`; completion is C06's `MarkBatchComplete`, so the database part of every proof is C06's.
-/
namespace Pool.C13
open Pool.C06 Pool.Gen.C06

theorem fillState_executed_iff (o : Ord) (rem : Nat) :
    (fillState o rem = orderStateExecuted ↔ rem = 0 ∨ rem < o.minMatch) ∧
    (fillState o rem = orderStatePartiallyFilled ↔ ¬ (rem = 0 ∨ rem < o.minMatch)) := by
  have hne : orderStateExecuted ≠ orderStatePartiallyFilled := by decide
  unfold fillState
  split <;> simp [*, hne.symm]

/-- the four account-diff states `diffMods` accepts, with their values in the RPC enum `AccountDiff_AccountState` -/
theorem facts_ending_states :
    [diff_OUTPUT_RECREATED, diff_OUTPUT_DUST_EXTENDED_OFFCHAIN, diff_OUTPUT_DUST_ADDED_TO_FEES,
     diff_OUTPUT_FULLY_SPENT] = [0, 1, 2, 3] := rfl

theorem step_stage_cases (db : DB) (b : Batch) :
    (∃ e, step db (.stage b) = (db, some e)) ∨
      (∃ a, stageArgs b db = .ok a ∧ step db (.stage b) = C06.step db (.stage a)) := by
  simp only [step, bsStore]
  cases stageArgs b db with
  | error e => exact Or.inl ⟨e, rfl⟩
  | ok a => exact Or.inr ⟨a, rfl, rfl⟩

/-- a successful `batchStorer.StorePendingBatch` is a C06 staging call that stages exactly the matched orders, each
filled by its matched units, and logs the fill event of each -/
theorem stage_ok (db : DB) (b : Batch) (hm : (keys b.matched).Nodup) (hok : (step db (.stage b)).2 = none) :
    ∃ a o, stageOut db.accounts db.orders a = .ok o ∧ (step db (.stage b)).1 = afterStage db a o ∧
      (∀ n us, lookup n b.matched = some us → ∃ x, lookup n db.orders = some x ∧ lookup n o.po = some (filled x us) ∧
        (n, Evt.updated x.state (filled x us).state (sub64 (filled x us).units (filled x us).unfilled)) ∈ o.es) ∧
      (∀ n, lookup n b.matched = none → lookup n o.po = none) := by
  rcases step_stage_cases db b with ⟨e, he⟩ | ⟨a, hs, ha⟩
  · rw [he] at hok; cases hok
  rw [ha] at hok ⊢
  obtain ⟨o, ho, hd⟩ := stage_ok_state db a hok
  obtain ⟨lo, hpo, hzip⟩ := stageArgs_ok hs
  obtain ⟨uo, ua, hlo, -, -⟩ := stageOut_ok ho
  rw [hzip] at hlo
  refine ⟨a, o, ho, hd, fun n us hl => ?_, fun n hl => ?_⟩
  · obtain ⟨x, hx, hlast, hmem⟩ := (prepOrders_ok hpo hm n).2 us hl
    refine ⟨x, hx, ?_, ?_⟩
    · rw [stageOrdersLoop_lookup hlo n, hlast, hx, stagedVal_some, Option.map_some, applyOMods_fillMods]
    · rw [stageOrdersLoop_events hlo]
      have := List.mem_map_of_mem (f := evtOf db.orders) hmem
      simpa [evtOf, hx, applyOMods_fillMods] using this
  · rw [stageOrdersLoop_lookup hlo n, (prepOrders_ok hpo hm n).1 hl, stagedVal_none]
    rfl

/-- **One batch, staged through `batchStorer` and completed.**  Staging changes nothing visible; completion
succeeds; every matched order then has the uint64 remainder of its unfilled units (`unfilled − Σ us` when the batch
does not over-fill it), state `executed` iff that remainder is 0 or below the order's minimum match size and
`partially filled` otherwise (`fillState`); its fill event is in the event log (written at staging time; completion
adds none); orders not in the batch are exactly as before. -/
theorem C13_fill_exact (db : DB) (b : Batch) (hm : (keys b.matched).Nodup)
    (hok : (step db (.stage b)).2 = none) :
    let db1 := (step db (.stage b)).1
    let db2 := (step db1 .complete).1
    vis db1 = vis db ∧ (step db1 .complete).2 = none ∧
    (∀ n us, lookup n b.matched = some us → ∃ x, lookup n db.orders = some x ∧
      lookup n db2.orders = some (filled x us) ∧
      (n, Evt.updated x.state (filled x us).state (sub64 x.units (filled x us).unfilled)) ∈ db2.events ∧
      (x.unfilled < two64 → us.sum ≤ x.unfilled → (filled x us).unfilled = x.unfilled - us.sum)) ∧
    (∀ n, lookup n b.matched = none → lookup n db2.orders = lookup n db.orders) ∧
    db2.events = db1.events ∧ staged db2 = none := by
  obtain ⟨a, o, ho, hd, hin, hout⟩ := stage_ok db b hm hok
  have hs := stageOut_stagedOK ho
  have hlk := fun n => lookup_over (main := db.orders) hs.ordN n
  have h2 : step (afterStage db a o) .complete = _ := step_complete_pending (hasPending_afterStage db a o) hs
  dsimp only
  rw [hd, h2]
  refine ⟨rfl, rfl, fun n us hl => ?_, fun n hl => ?_, rfl, rfl⟩
  · obtain ⟨x, hx, hpo, hmem⟩ := hin n us hl
    exact ⟨x, hx, (hlk n).trans (by rw [hpo, pick_some]), List.mem_append_right _ hmem, remaining_exact⟩
  · exact (hlk n).trans (by rw [hout n hl, pick_none])

def unitsFor (b : Batch) (n : Key) : Nat :=
  match lookup n b.matched with
  | some us => us.sum
  | none => 0

/-- ghost bookkeeping defined from the operations and their RESULTS only: `done n` = units of order `n` matched
in batches that were completed, `pend n` = units matched in the batch staged last (0 when none) -/
structure Ghost where
  done : Key → Nat
  pend : Key → Nat

/-- observable outcome of a reconnect check: was the `BatchCleaner` asked to delete the staged batch -/
def deleted (db : DB) : Op → Bool
  | .reconnect rpc rm => (C06.reconnect rpc rm db).2.1.contains .deletePendingBatch
  | _ => false

def gstep (g : Ghost) (op : Op) (res : Option Err) (del : Bool) : Ghost :=
  match op, res with
  | .reconnect _ _, _ => if del then { g with pend := fun _ => 0 } else g
  | .stage b, none => { g with pend := unitsFor b }        -- a successful (re-)staging replaces the staged batch
  | .complete, none => { done := fun n => g.done n + g.pend n, pend := fun _ => 0 }
  | .discard, _ => { g with pend := fun _ => 0 }
  | _, _ => g                                               -- failed calls, reopen

def grun (db : DB) (g : Ghost) : List Op → DB × Ghost
  | [] => (db, g)
  | op :: ops => grun (step db op).1 (gstep g op (step db op).2 (deleted db op)) ops

/-- every order of `db0` is still there, less the units of the completed batches, and completion would take the
units of the batch staged last from it -/
structure Inv (db0 db : DB) (g : Ghost) : Prop where
  coh : Coh db
  ord : ∀ n o0, lookup n db0.orders = some o0 → ∃ o o', lookup n db.orders = some o ∧ next db n = some o' ∧
    Less (g.done n) o0 o ∧ Less (g.pend n) o o'

theorem inv_step {db0 db : DB} {g : Ghost} (h : Inv db0 db g) (op : Op)
    (hop : ∀ b, op = .stage b → (keys b.matched).Nodup) :
    Inv db0 (step db op).1 (gstep g op (step db op).2 (deleted db op)) := by
  -- with nothing staged `next` is the main bucket, by definition
  have discarded : Inv db0 (C06.step db .discard).1 { g with pend := fun _ => 0 } :=
    ⟨coh_discard h.coh, fun n o0 h0 =>
      have ⟨o, _, ho, _, hl, _⟩ := h.ord n o0 h0
      ⟨o, o, ho, ho, hl, .refl hl.unfilled_lt⟩⟩
  cases op with
  | reopen => exact h
  | discard => exact discarded
  | reconnect rpc rm =>
    -- the check either keeps everything or does exactly what `discard` does, and the cleaner call tells which
    dsimp only [step, C06.step, deleted, gstep]
    rw [reconnect_fst_of_calls]
    split
    · exact discarded
    · exact h
  | complete =>
    simp only [step, deleted]
    rcases h.coh.pend with hn | ⟨st, hs, hp⟩
    · rw [step_complete_noPending hn]; exact h
    · rw [step_complete_pending hp hs]
      refine ⟨coh_afterComplete h.coh hs, fun n o0 h0 => ?_⟩
      obtain ⟨o, o', -, hn, h1, h2⟩ := h.ord n o0 h0
      -- the order now reads as `next` said it would
      have hl := (lookup_over hs.ordN n).trans ((next_of_hasPending hp n).symm.trans hn)
      exact ⟨o', o', hl, hl, h1.trans h2, .refl h2.unfilled_lt⟩
  | stage b =>
    cases hres : (step db (.stage b)).2 with
    | some e =>
      have hid : (step db (.stage b)).1 = db := commit_fst_of_err hres
      rw [hid]; exact h
    | none =>
      obtain ⟨a, o, ho, hd, hin, hout⟩ := stage_ok db b (hop b rfl) hres
      rw [hd]
      refine ⟨coh_afterStage h.coh ho, fun n o0 h0 => ?_⟩
      obtain ⟨x, -, hx, -, h1, -⟩ := h.ord n o0 h0
      rw [next_of_hasPending (hasPending_afterStage db a o)]
      simp only [gstep, unitsFor]
      cases hm : lookup n b.matched with
      | none => exact ⟨x, x, hx, by rw [hout n hm]; exact hx, h1, .refl h1.unfilled_lt⟩
      | some us =>
        obtain ⟨x', hx', hpo, -⟩ := hin n us hm
        cases hx.symm.trans hx'
        exact ⟨x, filled x us, hx, by rw [hpo]; rfl, h1, remaining_eq_sub64 us h1.unfilled_lt, rfl⟩

/-- **A reconnect that finds the SAME txid finalised keeps the staged batch** – whatever the bytes of the
finalised transaction (it carries witnesses, the staged one does not): `checkPendingBatch` compares `TxHash()`. -/
theorem C13_reconnect_same_txid_keeps (db : DB) (s : Snap) (hs : db.pendingSnap = some s) (rm : Bool) :
    step db (.reconnect (.finalized s.tx) rm) = (db, none) := by
  simp only [step, C06.step]
  rw [reconnect_fst, hs]
  simp

theorem C13_reconnect_orders_untouched (db : DB) (rpc : Rpc) (rm : Bool) :
    (step db (.reconnect rpc rm)).1.orders = db.orders :=
  congrArg Visible.orders (C06_reconnect_never_applies db rpc rm).2

theorem inv_grun {db0 db : DB} {g : Ghost} (h : Inv db0 db g) (ops : List Op)
    (hops : ∀ b, Op.stage b ∈ ops → (keys b.matched).Nodup) :
    Inv db0 (grun db g ops).1 (grun db g ops).2 := by
  induction ops generalizing db g with
  | nil => exact h
  | cons op ops ih =>
    simp only [grun]
    refine ih (inv_step h op ?_) (fun b hb => hops b (List.mem_cons_of_mem _ hb))
    intro b hb; subst hb; exact hops b List.mem_cons_self

/-- **Sequences of batches.**  From any coherent database with nothing staged, for EVERY history of stage through
`batchStorer` / re-stage / discard / complete / reopen / reconnect check, each failing or not, and every order `n`
present at the start: the order still exists with the same fixed terms (`Ord.fixed`), and

  final unfilled  ≡  initial unfilled − Σ (units of `n` in the COMPLETED batches)   (mod 2^64, Go's uint64),

exactly so in ℕ whenever the completed units do not exceed the initial unfilled units (always the case for batches
that passed verification, C01).  Units of batches re-staged over or discarded do not appear: `done` only grows at a
successful `complete`, by the units of the batch staged last. -/
theorem C13_sequences (db0 : DB) (hc : Coh db0) (hn : NoPending db0)
    (hwf : ∀ n o, lookup n db0.orders = some o → o.unfilled < two64)
    (ops : List Op) (hops : ∀ b, Op.stage b ∈ ops → (keys b.matched).Nodup) :
    let r := grun db0 ⟨fun _ => 0, fun _ => 0⟩ ops
    ∀ n o0, lookup n db0.orders = some o0 → ∃ o, lookup n r.1.orders = some o ∧
      (o.unfilled + r.2.done n) % two64 = o0.unfilled % two64 ∧
      (r.2.done n ≤ o0.unfilled → o.unfilled = o0.unfilled - r.2.done n) ∧
      o.fixed = o0.fixed := by
  intro r n o0 h0
  have hinit : Inv db0 db0 ⟨fun _ => 0, fun _ => 0⟩ :=
    ⟨hc, fun n o0 h => ⟨o0, o0, h, by rw [next, staged_of_noPending hn]; exact h, .refl (hwf n o0 h),
      .refl (hwf n o0 h)⟩⟩
  obtain ⟨o, -, ho, -, ⟨h1, h3⟩, -⟩ := (inv_grun hinit ops hops).ord n o0 h0
  exact ⟨o, ho, h1 ▸ sub64_add _ _, fun hle => h1 ▸ sub64_exact (hwf n o0 h0) hle, h3⟩

theorem grun_db (db : DB) (g : Ghost) (ops : List Op) : (grun db g ops).1 = run db ops := by
  induction ops generalizing db g with
  | nil => rfl
  | cons op ops ih => simp only [grun, run]; exact ih _ _

def exDb : DB := C06.run DB.init [.addAccount 1 C06.exAcct, .submitOrder 2 { state := 0, unfilled := 10, units := 10, minMatch := 3, isBid := true, tier := 1, extras := 6 }, .submitOrder 3 { state := 0, unfilled := 5, units := 5, minMatch := 1 }]

def exBatch (id : Nat) (us : List Nat) : Batch :=
  { id := id, tx := 3, feeOk := true, supportsExt := true, supportsTaproot := false, heightHint := 100,
    matched := [(2, us)], diffs := [⟨1, 0, 900, 1, 0, 0⟩] }

example : Coh exDb := (C06_histories _).2
example : NoPending exDb := ⟨by decide, by decide, by decide, by decide⟩
example : (keys (exBatch 1 [4, 4]).matched).Nodup := by decide
example : (step exDb (.stage (exBatch 1 [4, 4]))).2 = none := by decide
/-- 10 − (4+4) = 2 < min match 3: executed with 2 units left; the event records 8 filled units -/
example : let d := run exDb [.stage (exBatch 1 [4, 4]), .complete]
    lookup 2 d.orders = some { state := orderStateExecuted, unfilled := 2, units := 10, minMatch := 3, isBid := true, tier := 1, extras := 6 } ∧ lookup 3 d.orders = some { state := 0, unfilled := 5, units := 5, minMatch := 1 } ∧
    (2, Evt.updated 0 orderStateExecuted 8) ∈ d.events := by decide
/-- 10 − 7 = 3 = min match: partially filled -/
example : lookup 2 (run exDb [.stage (exBatch 1 [7]), .complete]).orders =
    some { state := orderStatePartiallyFilled, unfilled := 3, units := 10, minMatch := 3, isBid := true, tier := 1, extras := 6 } := by decide
/-- re-staged and discarded versions leave no trace in the fill state: only the completed 7 units count -/
def exHist : List Op :=
  [.stage (exBatch 1 [4, 4]), .stage (exBatch 2 [9]), .discard, .stage (exBatch 3 [1]), .stage (exBatch 4 [7]),
   .reopen, .complete, .complete]

example : lookup 2 (grun exDb ⟨fun _ => 0, fun _ => 0⟩ exHist).1.orders =
      some { state := orderStatePartiallyFilled, unfilled := 3, units := 10, minMatch := 3, isBid := true, tier := 1, extras := 6 } ∧
    (grun exDb ⟨fun _ => 0, fun _ => 0⟩ exHist).2.done 2 = 7 := by decide

/-- **The split is irrelevant**: however the matched units of one order are split over counterparty orders (and in
whatever order `MatchedOrders[nonce]` lists them), the order after the batch depends on the total only.  No "no
over-fill" hypothesis is needed: the uint64 subtraction chain is a function of the total modulo 2^64. -/
theorem C13_split_irrelevant (o : Ord) (us vs : List Nat) (hu : o.unfilled < two64) (h : us.sum = vs.sum) :
    filled o us = filled o vs := by
  unfold filled
  rw [remaining_eq_sub64 us hu, remaining_eq_sub64 vs hu, h]

/-- **The excluded input**: the exact difference in `C13_fill_exact` is guarded by "the batch does not over-fill the
order" (guaranteed by the verifier, C01).  Outside that guard the real code wraps – stated so that the guard is
visibly necessary, not an artefact of the model. -/
theorem C13_overfill_wraps (u : Nat) (us : List Nat) (hu : u < two64) (hs : us.sum < two64) (h : u < us.sum) :
    remaining u us = u + two64 - us.sum := by
  rw [remaining_eq_sub64 us hu]
  unfold sub64 two64 at *
  omega

example : remaining 5 [3, 4] = two64 - 2 := by decide
example : filled { (default : Ord) with unfilled := 10, minMatch := 2 } [3, 4] =
          filled { (default : Ord) with unfilled := 10, minMatch := 2 } [7] := by decide

end Pool.C13
