import PoolProofs.C16Lemmas
/-! C16: the anatomy of a transition. An action of side `prov` is a party-local update (`setParty`), then a list of
driver/mailbox effects (`applyEffs`), then - for a crash - a restart or - for the cancel RPC - one more store write
(a nil dereference only sets `panicked`, `recvErr` only logs). `applyG_*` say so action by action, each with the whole
guard (`.1` inverts a transition, `.2` shows one enabled); the frame lemmas say what the effects leave alone. The
invariants are proved from these, not from `applyG`. -/
namespace Pool.C16

@[simp] theorem takePkt_eq (x : Party) :
    takePkt x = { x with inbox := if x.loopPkt.isSome then x.inbox else none } := by
  unfold takePkt; split <;> simp [*]

theorem nextPkt_mem {x : Party} {pkt : Ticket} (h : nextPkt x = some pkt) :
    x.loopPkt = some pkt ∨ x.inbox = some pkt := by
  unfold nextPkt at h; split at h
  · exact .inl h
  · exact .inr h

@[simp] theorem getParty_setParty (s : Sys) (prov : Bool) (x : Party) : getParty (setParty s prov x) prov = x := by
  cases prov <;> rfl

@[simp] theorem getParty_setParty_other (s : Sys) (prov : Bool) (x : Party) :
    getParty (setParty s prov x) (!prov) = getParty s (!prov) := by
  cases prov <;> rfl

@[simp] theorem setParty_panicked (s : Sys) (prov : Bool) (x : Party) : (setParty s prov x).panicked = s.panicked := by
  cases prov <;> rfl

/-- the party the provider's main loop goes on with after a call of its step function that returned `o` (`none`: nil
dereference); `loopPkt` keeps the stateUpdateLoop going -/
def provNext (x : Party) (pkt : Ticket) (o : Out) : Option Party :=
  match o.res with
  | .panic => none
  | .err _ => some { x with loc := o.provAfter, loopPkt := none }
  | .ok c _ pv =>
    some { x with cur := c, loc := pv,
                  loopPkt := if !(x.cur == c || c == sExpecting || c == sCanceled) then some pkt else none }

/-- the same for the recipient, which has no inner loop -/
def recpNext (x : Party) (o : Out) : Option Party :=
  match o.res with
  | .panic => none
  | .err _ => some x
  | .ok c rv _ => some { x with cur := c, loc := rv }

theorem procStep_P (s : Sys) (x : Party) (pkt : Ticket) :
    procStep s true x pkt = (provNext x pkt (stepProvider (envP s) x.cur (some pkt) x.loc),
      (stepProvider (envP s) x.cur (some pkt) x.loc).effs) := by
  unfold procStep provNext; simp only [if_true]; split <;> simp only [*]

theorem procStep_R (s : Sys) (x : Party) (pkt : Ticket) :
    procStep s false x pkt = (recpNext x (stepRecipient (envR s) x.cur x.loc (some pkt)),
      (stepRecipient (envR s) x.cur x.loc (some pkt)).effs) := by
  unfold procStep recpNext; simp only [Bool.false_eq_true, if_false]; split <;> simp only [*]

theorem procStep_POut (s : Sys) {x : Party} (pkt : Ticket) {l : Ticket} (hl : x.loc = some l) :
    ∃ o, POut s x.cur pkt l o ∧ procStep s true x pkt = (provNext x pkt o, o.effs) :=
  ⟨_, stepProvider_POut s x.cur pkt l, by rw [procStep_P, hl]⟩

theorem procStep_ROut (s : Sys) {x : Party} (pkt : Ticket) {l : Ticket} (hl : x.loc = some l) :
    ∃ o, ROut s x.cur l pkt o ∧ procStep s false x pkt = (recpNext x o, o.effs) :=
  ⟨_, stepRecipient_ROut s x.cur l pkt, by rw [procStep_R, hl]⟩

/-- the finalization branch run on the system: what `fin`, `finalize` and, on a running side, the two RPC actions do -/
def finRun (ret : Bool) (s : Sys) (prov : Bool) (st : Nat) (otherSide : Bool) : Sys :=
  match finStep ret prov (getParty s prov) st otherSide with
  | (none, _) => { s with panicked := true }
  | (some x', es) => applyEffs prov (setParty s prov x') es

theorem finStep_some {x : Party} {l : Ticket} (ret prov : Bool) (st : Nat) (otherSide : Bool) (hl : x.loc = some l) :
    finStep ret prov x st otherSide =
      (some { x with loc := some { l with state := st }, finPend := false, quit := true, alive := !ret },
       [.update { l with state := st } true,
        if !otherSide && st == sCanceled && (!prov || decide (sRegistered ≤ x.cur)) then
          .send (!prov) { l with state := st } true
        else .delMailbox]) := by
  simp [finStep, hl]

theorem applyG_deliver {ret : Bool} {s s' : Sys} {tp : Bool} {i : Nat} :
    applyG ret s (.deliver tp i) = some s' ↔
      ∃ m, (if tp then s.toP else s.toR)[i]? = some m ∧
        ((getParty s tp).alive = true ∧ (getParty s tp).inbox = none) ∧
        s' = setParty s tp { getParty s tp with inbox := some m } := by
  simp only [applyG]
  split <;> simp [*, eq_comm (a := s')]

theorem applyG_proc {ret : Bool} {s s' : Sys} {prov : Bool} :
    applyG ret s (.proc prov) = some s' ↔
      ((getParty s prov).alive = true ∧ s.panicked = false) ∧ ∃ pkt ox es,
        nextPkt (getParty s prov) = some pkt ∧ procStep s prov (takePkt (getParty s prov)) pkt = (ox, es) ∧
        s' = match ox with
          | none => { applyEffs prov s es with panicked := true }
          | some x' => applyEffs prov (setParty s prov x') es := by
  simp only [applyG, Option.ite_none_left_eq_some]
  refine and_congr (by simp) ?_
  cases nextPkt (getParty s prov) with
  | none => simp
  | some pkt =>
    rcases hp : procStep s prov (takePkt (getParty s prov)) pkt with ⟨_ | x', es⟩ <;>
      simp [-takePkt_eq, hp, and_assoc, eq_comm (a := s')]

theorem applyG_procCrash {ret : Bool} {s s' : Sys} {prov : Bool} {k : Nat} :
    applyG ret s (.procCrash prov k) = some s' ↔
      ((getParty s prov).alive = true ∧ s.panicked = false) ∧ ∃ pkt ox es,
        nextPkt (getParty s prov) = some pkt ∧ procStep s prov (takePkt (getParty s prov)) pkt = (ox, es) ∧
        k < es.length ∧ s' = restart prov (applyEffs prov s (es.take k)) := by
  simp only [applyG, Option.ite_none_left_eq_some]
  refine and_congr (by simp) ?_
  cases nextPkt (getParty s prov) with
  | none => simp
  | some pkt =>
    rcases hp : procStep s prov (takePkt (getParty s prov)) pkt with ⟨ox, es⟩
    simp [-takePkt_eq, hp, and_assoc, eq_comm (a := s')]

theorem applyG_fin {ret : Bool} {s s' : Sys} {prov : Bool} :
    applyG ret s (.fin prov) = some s' ↔
      ((getParty s prov).alive = true ∧ s.panicked = false ∧ (getParty s prov).finPend = true ∧
        (getParty s prov).loopPkt = none) ∧
      s' = finRun ret s prov sCanceled true := by
  simp only [applyG, finRun, Option.ite_none_left_eq_some]
  refine and_congr (by simp [and_assoc]) ?_
  rcases finStep ret prov (getParty s prov) sCanceled true with ⟨_ | x', es⟩ <;> exact Option.some_inj.trans eq_comm

theorem applyG_finalize {ret : Bool} {s s' : Sys} {prov : Bool} {st : Nat} :
    applyG ret s (.finalize prov st) = some s' ↔
      ((getParty s prov).alive = true ∧ s.panicked = false ∧ (getParty s prov).quit = false ∧
        (getParty s prov).loopPkt = none ∧ (st = sCompleted ∨ st = sCanceled)) ∧
      s' = finRun ret s prov st false := by
  simp only [applyG, finRun, Option.ite_none_left_eq_some]
  refine and_congr (by simp [Decidable.or_iff_not_imp_left]) ?_
  rcases finStep ret prov (getParty s prov) st false with ⟨_ | x', es⟩ <;> exact Option.some_inj.trans eq_comm

theorem applyG_stop {ret : Bool} {s s' : Sys} {prov : Bool} :
    applyG ret s (.stop prov) = some s' ↔ s' = setParty s prov { getParty s prov with quit := true } := by
  simp only [applyG, Option.some_inj, eq_comm]

theorem applyG_quit {ret : Bool} {s s' : Sys} {prov : Bool} :
    applyG ret s (.quit prov) = some s' ↔
      ((getParty s prov).alive = true ∧ (getParty s prov).quit = true ∧ (getParty s prov).loopPkt = none) ∧
      s' = setParty s prov { getParty s prov with alive := false, inbox := none, finPend := false } := by
  simp [applyG, and_assoc, eq_comm (a := s')]

theorem applyG_restart {ret : Bool} {s s' : Sys} {prov : Bool} :
    applyG ret s (.restart prov) = some s' ↔ s' = restart prov s := by
  simp only [applyG, Option.some_inj, eq_comm]

theorem applyG_recvErr {ret : Bool} {s s' : Sys} {prov : Bool} :
    applyG ret s (.recvErr prov) = some s' ↔
      (getParty s prov).alive = true ∧ s' = { s with log := (prov, .initMailbox) :: s.log } := by
  simp [applyG, eq_comm (a := s')]

/-- The cancel RPC. A running negotiator takes its finalization branch first; only if that does not dereference nil does
the RPC then write its own copy of the stored ticket. -/
theorem applyG_cancelRPC {ret : Bool} {s s' : Sys} {prov : Bool} :
    applyG ret s (.cancelRPC prov) = some s' ↔
      (s.panicked = false ∧ isTerminal (getParty s prov).store.state = false ∧ (getParty s prov).loopPkt = none ∧
        (sOrdered ≤ (getParty s prov).store.state → (getParty s prov).store.order.isSome = true →
          prov = true ∧ s.bidStored = true) ∧
        ¬((getParty s prov).alive = true ∧ (getParty s prov).quit = true)) ∧
      ((getParty s prov).alive = true ∧ (getParty s prov).loc = none ∧ s' = { s with panicked := true } ∨
       ∃ s1, ((getParty s prov).alive = false ∧ s1 = s ∨
              (getParty s prov).alive = true ∧ (∃ l, (getParty s prov).loc = some l) ∧
                s1 = finRun ret s prov sCanceled false) ∧
         s' = setParty s1 prov { getParty s1 prov with store := { (getParty s prov).store with state := sCanceled } }) := by
  simp only [applyG, Option.ite_none_left_eq_some, ← and_assoc]
  refine and_congr (by simp [and_assoc]) ?_
  cases hl : (getParty s prov).loc <;> cases hal : (getParty s prov).alive <;>
    simp [finRun, finStep, hl, hal, eq_comm (a := s')]

theorem applyG_completeRPC {ret : Bool} {s s' : Sys} {prov : Bool} :
    applyG ret s (.completeRPC prov) = some s' ↔
      (s.panicked = false ∧ isTerminal (getParty s prov).store.state = false ∧ (getParty s prov).loopPkt = none ∧
        (if prov then s.bidStored else s.pending.isSome) = true ∧
        ¬((getParty s prov).alive = true ∧ (getParty s prov).quit = true)) ∧
      ((getParty s prov).alive = true ∧ s' = finRun ret s prov sCompleted false ∨
       (getParty s prov).alive = false ∧
         s' = setParty s prov { getParty s prov with store := { (getParty s prov).store with state := sCompleted } }) := by
  simp only [applyG, finRun, Option.ite_none_left_eq_some, ← and_assoc]
  refine and_congr (by cases prov <;> simp [and_assoc, Option.isSome_iff_ne_none]) ?_
  cases (getParty s prov).alive
  · simp [eq_comm (a := s')]
  · rcases finStep ret prov (getParty s prov) sCompleted false with ⟨_ | x', es⟩ <;> simp [eq_comm (a := s')]

theorem applyEffs_cons (prov : Bool) (s : Sys) (e : Eff) (es : List Eff) :
    applyEffs prov s (e :: es) = applyEffs prov (applyEff prov s e) es := rfl

/-- No successful `ExpectChannel` among a provider's effects. `applyEff` lets that call write the RECIPIENT's store
whoever makes it, so only without it do the effects of side `prov` stay on that side. -/
def OnlyRecpExpects (prov : Bool) (es : List Eff) : Prop := prov = true → ∀ t, Eff.expect t true ∉ es

/-- `s'` is `s` after effects of a handler of side `prov` that write the states `ws`: the persisted state ends as one of
them, and without a write the stored ticket stays. Of the buffers, `finPend`, `quit` and the shared fields nothing is
said. This ties the step-level statements about `writes` to the transition system. -/
structure Frame (prov : Bool) (ws : List Nat) (s s' : Sys) : Prop where
  panicked : s'.panicked = s.panicked
  other : getParty s' (!prov) = getParty s (!prov)
  alive : (getParty s' prov).alive = (getParty s prov).alive
  cur : (getParty s' prov).cur = (getParty s prov).cur
  loc : (getParty s' prov).loc = (getParty s prov).loc
  store : (getParty s' prov).store.state ∈ ws ∨ ws = [] ∧ (getParty s' prov).store = (getParty s prov).store

theorem Frame.of_parties {prov : Bool} {s s' : Sys} (hp : s'.p = s.p) (hr : s'.r = s.r)
    (hn : s'.panicked = s.panicked) : Frame prov [] s s' := by
  have h : ∀ q, getParty s' q = getParty s q := fun q => by cases q <;> assumption
  exact ⟨hn, h _, by rw [h], by rw [h], by rw [h], .inr ⟨rfl, by rw [h]⟩⟩

theorem Frame.trans {prov : Bool} {ws ws' : List Nat} {s s1 s2 : Sys} (h : Frame prov ws s s1)
    (h' : Frame prov ws' s1 s2) : Frame prov (ws ++ ws') s s2 := by
  refine ⟨h'.panicked.trans h.panicked, h'.other.trans h.other, h'.alive.trans h.alive, h'.cur.trans h.cur,
    h'.loc.trans h.loc, ?_⟩
  rcases h'.store with h2 | ⟨rfl, h2⟩
  · exact .inl (List.mem_append_right _ h2)
  · rw [List.append_nil, h2]
    exact h.store

theorem applyEff_frame (prov : Bool) (s : Sys) (e : Eff) (h : OnlyRecpExpects prov [e]) :
    Frame prov (writes [e]) s (applyEff prov s e) := by
  cases e with
  | update t ok =>
    cases ok
    · exact .of_parties rfl rfl rfl
    · cases prov <;> exact ⟨rfl, rfl, rfl, rfl, rfl, .inl (List.mem_singleton.2 rfl)⟩
  | expect t ok =>
    cases ok
    · exact .of_parties rfl rfl rfl
    · cases prov
      · exact ⟨rfl, rfl, rfl, rfl, rfl, .inl (List.mem_singleton.2 rfl)⟩
      · exact (h rfl t (List.mem_singleton.2 rfl)).elim
  | spawnFin => cases prov <;> exact ⟨rfl, rfl, rfl, rfl, rfl, .inr ⟨rfl, rfl⟩⟩
  | send tp t ok => cases tp <;> cases ok <;> exact .of_parties rfl rfl rfl
  | submit t r => cases r <;> exact .of_parties rfl rfl rfl
  | _ => exact .of_parties rfl rfl rfl

theorem applyEffs_frame (prov : Bool) (es : List Eff) (h : OnlyRecpExpects prov es) (s : Sys) :
    Frame prov (writes es) s (applyEffs prov s es) := by
  induction es generalizing s with
  | nil => exact .of_parties rfl rfl rfl
  | cons e es ih =>
    rw [applyEffs_cons, writes_cons]
    exact (applyEff_frame prov s e fun hp t ht => h hp t (List.mem_cons.2 (.inl (List.mem_singleton.1 ht)))).trans
      (ih (fun hp t ht => h hp t (List.mem_cons_of_mem _ ht)) _)

theorem resumeState_eq (st : Nat) : resumeState st = if st = 1 then 0 else st := by
  by_cases h : st = 1
  · simp [resumeState, Pool.Gen.C16.resumeRemap, h]
  · simp [resumeState, Pool.Gen.C16.resumeRemap, h, Ne.symm h]

theorem restartParty_store (prov : Bool) (x : Party) : (restartParty prov x).store = x.store := by
  unfold restartParty; split <;> rfl

@[simp] theorem restart_panicked (prov : Bool) (s : Sys) : (restart prov s).panicked = s.panicked := by
  cases prov <;> rfl

@[simp] theorem getParty_restart_other (prov : Bool) (s : Sys) :
    getParty (restart prov s) (!prov) = getParty s (!prov) := by
  cases prov <;> rfl

@[simp] theorem getParty_restart (prov : Bool) (s : Sys) :
    getParty (restart prov s) prov = restartParty prov (getParty s prov) := by
  cases prov <;> rfl

/-- `s'` is `s` after side `prov`, holding a local ticket, ran its finalization branch for state `st` -/
structure Finalized (ret prov : Bool) (st : Nat) (otherSide : Bool) (s s' : Sys) : Prop where
  panicked : s'.panicked = s.panicked
  other : getParty s' (!prov) = getParty s (!prov)
  alive : (getParty s' prov).alive = !ret
  store : (getParty s' prov).store.state = st
  /-- an own cancellation goes to the other side: always from the recipient, from the provider once a recipient registered -/
  notified : otherSide = false → st = sCanceled → (prov = false ∨ sRegistered ≤ (getParty s prov).cur) →
    ∃ t, t.state = sCanceled ∧ t ∈ (if prov then s'.toR else s'.toP)

theorem finRun_finalized {s : Sys} {prov : Bool} {l : Ticket} (ret : Bool) (st : Nat) (otherSide : Bool)
    (hl : (getParty s prov).loc = some l) : Finalized ret prov st otherSide s (finRun ret s prov st otherSide) := by
  rw [finRun, finStep_some ret prov st otherSide hl]
  -- the two effects are run, per side and per value of the branch's notification condition `h`; the ticket was sent
  -- where `h` held, and where it did not one of the three premises of `notified` fails
  cases prov <;> dsimp only <;> split <;> refine ⟨rfl, rfl, rfl, rfl, fun ho hs hc => ?_⟩ <;> rename_i h
  · exact ⟨{ l with state := st }, hs, by simp [applyEffs, applyEff, setParty]⟩
  · simp [ho, hs] at h
  · exact ⟨{ l with state := st }, hs, by simp [applyEffs, applyEff, setParty]⟩
  · simp [ho, hs, hc.resolve_left Bool.noConfusion] at h

theorem runG_invariant {I : Sys → Prop} {ret : Bool} (step : ∀ s s' a, I s → applyG ret s a = some s' → I s')
    (as : List Act) : ∀ s s', I s → runG ret s as = some s' → I s' := by
  induction as with
  | nil => intro s s' hi h; cases h; exact hi
  | cons a rest ih =>
    intro s s' hi h
    simp only [runG] at h
    split at h
    · cases h
    · rename_i s1 h1
      exact ih s1 s' (step s s1 a hi h1) h

end Pool.C16
