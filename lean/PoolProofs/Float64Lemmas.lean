import PoolModel.Float64
import Mathlib.Tactic.Linarith
import Mathlib.Tactic.Ring
import Mathlib.Tactic.Positivity
/-! The error of the binary64 model `Pool.Float64`: one rounding (`rnd_relerr`; every positive rational, the model's
exponent being unbounded) and the six roundings of `premium` (`premium_near`). -/
namespace Pool.Float64

def F.val (x : F) : ℚ := (x.m : ℚ) * (2 : ℚ) ^ x.e

theorem two_zpow_pos (e : ℤ) : (0 : ℚ) < (2 : ℚ) ^ e := zpow_pos two_pos e

theorem two_zpow_of_nonneg {e : ℤ} (h : 0 ≤ e) : (2 : ℚ) ^ e = ((2 ^ e.toNat : ℕ) : ℚ) := by
  obtain ⟨k, rfl⟩ := Int.eq_ofNat_of_zero_le h
  simp

theorem two_zpow_of_neg {e : ℤ} (h : ¬ 0 ≤ e) : (2 : ℚ) ^ e = (((2 ^ (-e).toNat : ℕ) : ℚ))⁻¹ := by
  obtain ⟨k, rfl⟩ := Int.exists_eq_neg_ofNat (le_of_lt (not_le.1 h))
  simp

theorem F.val_nonneg (x : F) : 0 ≤ x.val := by
  unfold F.val; have := two_zpow_pos x.e; positivity

theorem F.den_pos (x : F) : 0 < x.den := by
  unfold F.den; split <;> simp

theorem F.num_div_den (x : F) : (x.num : ℚ) / x.den = x.val := by
  unfold F.num F.den F.val
  split
  · rename_i h; rw [two_zpow_of_nonneg h]; push_cast; rw [div_one]
  · rename_i h; rw [two_zpow_of_neg h, div_eq_mul_inv]

theorem scale_eq (n d : Nat) (e : ℤ) :
    (scaleNum n e : ℚ) / scaleDen d e = ((n : ℚ) / d) / (2 : ℚ) ^ e := by
  unfold scaleNum scaleDen
  split
  · rename_i h; rw [two_zpow_of_nonneg h]; push_cast; rw [div_div]
  · rename_i h; rw [two_zpow_of_neg h, div_inv_eq_mul]; push_cast; ring

theorem scaleDen_pos {d : Nat} (hd : 0 < d) (e : ℤ) : 0 < scaleDen d e := by
  unfold scaleDen; split
  · exact Nat.mul_pos hd (Nat.pow_pos (by norm_num))
  · exact hd

theorem nat_div_le (N D : Nat) (hD : 0 < D) : ((N / D : Nat) : ℚ) ≤ (N : ℚ) / D := by
  rw [le_div_iff₀ (by exact_mod_cast hD)]
  exact_mod_cast Nat.div_mul_le_self N D

theorem nat_div_gt (N D : Nat) (hD : 0 < D) : (N : ℚ) / D - 1 < ((N / D : Nat) : ℚ) := by
  rw [sub_lt_iff_lt_add, div_lt_iff₀ (by exact_mod_cast hD), mul_comm]
  exact_mod_cast Nat.lt_mul_div_succ N hD

theorem floor_bounds (x : F) : ((floor x : Nat) : ℚ) ≤ x.val ∧ x.val < (floor x : Nat) + 1 := by
  rw [← F.num_div_den]
  exact ⟨nat_div_le _ _ x.den_pos, by have := nat_div_gt x.num x.den x.den_pos; unfold floor; linarith⟩

theorem roundNE_err (N D : Nat) (hD : 0 < D) : |(roundNE N D : ℚ) - (N : ℚ) / D| ≤ 1 / 2 := by
  have hDq : (0 : ℚ) < D := by exact_mod_cast hD
  have hN : (N : ℚ) = D * (N / D : Nat) + (N % D : Nat) := by exact_mod_cast (Nat.div_add_mod N D).symm
  have hr : N % D < D := Nat.mod_lt _ hD
  rw [← mul_div_cancel_right₀ (roundNE N D : ℚ) hDq.ne', ← sub_div, abs_div, abs_of_pos hDq, div_le_iff₀ hDq,
    abs_le, hN]
  unfold roundNE
  simp only
  generalize N / D = q at *
  generalize N % D = r at *
  split
  · rename_i hup
    have h2 : (D : ℚ) ≤ 2 * (r : ℚ) := by
      exact_mod_cast (by rcases hup with h | ⟨h, _⟩ <;> omega : D ≤ 2 * r)
    have h3 : (r : ℚ) ≤ D := by exact_mod_cast hr.le
    push_cast
    exact ⟨by linarith only [h3], by linarith only [h2]⟩
  · rename_i hdn
    have h2 : 2 * (r : ℚ) ≤ (D : ℚ) := by
      exact_mod_cast (by by_contra hc; exact hdn (Or.inl (by omega)) : 2 * r ≤ D)
    have h3 : (0 : ℚ) ≤ (r : ℚ) := Nat.cast_nonneg _
    exact ⟨by linarith only [h2], by linarith only [h3]⟩

/-- from `2^log2 x ≤ x < 2·2^log2 x` -/
theorem expGuess_bounds (n d : Nat) (hn : 0 < n) (hd : 0 < d) :
    (2 : ℚ) ^ 51 < (n : ℚ) / d / 2 ^ expGuess n d ∧ (n : ℚ) / d / 2 ^ expGuess n d < 2 ^ 53 := by
  have hnq : (0 : ℚ) < n := by exact_mod_cast hn
  have hdq : (0 : ℚ) < d := by exact_mod_cast hd
  have hnl : (2 : ℚ) ^ n.log2 ≤ n := by exact_mod_cast Nat.log2_self_le hn.ne'
  have hnu : (n : ℚ) < 2 ^ n.log2 * 2 := by rw [← pow_succ]; exact_mod_cast Nat.lt_log2_self
  have hdl : (2 : ℚ) ^ d.log2 ≤ d := by exact_mod_cast Nat.log2_self_le hd.ne'
  have hdu : (d : ℚ) < 2 ^ d.log2 * 2 := by rw [← pow_succ]; exact_mod_cast Nat.lt_log2_self
  have hA : (0 : ℚ) < 2 ^ n.log2 := by positivity
  have hB : (0 : ℚ) < 2 ^ d.log2 := by positivity
  have e : (2 : ℚ) ^ expGuess n d = 2 ^ n.log2 / (2 ^ d.log2 * 2 ^ 52) := by
    unfold expGuess
    rw [zpow_sub₀ two_ne_zero, zpow_sub₀ two_ne_zero, zpow_natCast, zpow_natCast, div_div]; rfl
  rw [e]
  generalize (2 : ℚ) ^ n.log2 = A at *
  generalize (2 : ℚ) ^ d.log2 = B at *
  have h1 : (d : ℚ) * A < B * 2 * n :=
    lt_of_le_of_lt (mul_le_mul_of_nonneg_left hnl hdq.le) (mul_lt_mul_of_pos_right hdu hnq)
  have h2 : (n : ℚ) * B < A * 2 * d :=
    lt_of_le_of_lt (mul_le_mul_of_nonneg_left hdl hnq.le) (mul_lt_mul_of_pos_right hnu hdq)
  rw [div_div_eq_mul_div, div_mul_eq_mul_div, div_div, lt_div_iff₀ (by positivity), div_lt_iff₀ (by positivity)]
  constructor <;> linarith

theorem expOf_bounds (n d : Nat) (hn : 0 < n) (hd : 0 < d) :
    (2 : ℚ) ^ 52 ≤ (n : ℚ) / d / 2 ^ expOf n d ∧ (n : ℚ) / d / 2 ^ expOf n d < 2 ^ 53 := by
  obtain ⟨hl, hu⟩ := expGuess_bounds n d hn hd
  have hsd : (0 : ℚ) < scaleDen d (expGuess n d) := by exact_mod_cast scaleDen_pos hd _
  unfold expOf
  simp only
  split
  · rename_i hlt
    have h0 : (n : ℚ) / d / 2 ^ expGuess n d < 2 ^ 52 := by
      rw [← scale_eq, div_lt_iff₀ hsd]; exact_mod_cast hlt
    -- one binade down doubles the scaled value
    rw [zpow_sub_one₀ two_ne_zero, ← div_div, div_inv_eq_mul]
    constructor <;> linarith
  · rename_i hge
    refine ⟨?_, hu⟩
    rw [← scale_eq, le_div_iff₀ hsd]; exact_mod_cast Nat.le_of_not_lt hge

/-- anatomy of a rounding: the significand is an integer within 1/2 of the scaled value `s ∈ [2^52, 2^53)` -/
theorem rnd_of_pos {n d : Nat} (hn : 0 < n) (hd : 0 < d) :
    ∃ (m : ℕ) (s : ℚ), rnd n d = ⟨m, expOf n d⟩ ∧ (n : ℚ) / d = s * 2 ^ expOf n d ∧ |(m : ℚ) - s| ≤ 1 / 2 ∧
      2 ^ 52 ≤ s ∧ s < 2 ^ 53 := by
  have herr := roundNE_err (scaleNum n (expOf n d)) (scaleDen d (expOf n d)) (scaleDen_pos hd _)
  rw [scale_eq] at herr
  exact ⟨_, _, by simp only [rnd, hn.ne', if_false], (div_mul_cancel₀ _ (two_zpow_pos _).ne').symm, herr,
    expOf_bounds n d hn hd⟩

theorem rnd_relerr (n d : Nat) (hd : 0 < d) :
    |(rnd n d).val - (n : ℚ) / d| ≤ ((n : ℚ) / d) / 2 ^ 53 := by
  rcases Nat.eq_zero_or_pos n with rfl | hn
  · simp [rnd, F.val]
  obtain ⟨m, s, e, hq, herr, hlb, -⟩ := rnd_of_pos hn hd
  have hp := two_zpow_pos (expOf n d)
  rw [e, hq, F.val, show (m : ℚ) * 2 ^ expOf n d - s * 2 ^ expOf n d = (m - s) * 2 ^ expOf n d by ring, abs_mul,
    abs_of_pos hp]
  -- half a unit in the last place is at most `s / 2^53`, the significand being at least 2^52
  have h1 : |(m : ℚ) - s| ≤ s / 2 ^ 53 := herr.trans (by rw [le_div_iff₀ (by positivity)]; linarith only [hlb])
  calc |(m : ℚ) - s| * 2 ^ expOf n d ≤ s / 2 ^ 53 * 2 ^ expOf n d := mul_le_mul_of_nonneg_right h1 hp.le
    _ = s * 2 ^ expOf n d / 2 ^ 53 := by ring

theorem rnd_sig_bounds (n d : Nat) (hn : 0 < n) (hd : 0 < d) :
    2 ^ 52 ≤ (rnd n d).m ∧ (rnd n d).m ≤ 2 ^ 53 := by
  obtain ⟨m, s, e, -, herr, hlb, hub⟩ := rnd_of_pos hn hd
  rw [e, abs_le] at *
  have h1 : ((2 ^ 52 : ℕ) : ℚ) < ((m + 1 : ℕ) : ℚ) := by push_cast; linarith only [herr.1, hlb]
  have h2 : (m : ℚ) < ((2 ^ 53 + 1 : ℕ) : ℚ) := by push_cast; linarith only [herr.2, hub]
  exact ⟨Nat.lt_succ_iff.1 (by exact_mod_cast h1), Nat.lt_succ_iff.1 (by exact_mod_cast h2)⟩

def u : ℚ := 1 / 2 ^ 53

theorem one_sub_u_pos : 0 < 1 - u := by unfold u; norm_num
theorem one_add_u_pos : 0 < 1 + u := by unfold u; norm_num

/-- `x` is `X` up to `k` roundings: `x = X·r` with `r` a product of `k` factors in `[1 - u, 1 + u]` -/
def Near (k : ℕ) (x X : ℚ) : Prop := ∃ r : ℚ, ((1 - u) ^ k ≤ r ∧ r ≤ (1 + u) ^ k) ∧ x = X * r

theorem Near.mul {i j x y X Y} (hx : Near i x X) (hy : Near j y Y) : Near (i + j) (x * y) (X * Y) := by
  obtain ⟨r, hr, rfl⟩ := hx
  obtain ⟨s, hs, rfl⟩ := hy
  have hr0 := (pow_pos one_sub_u_pos i).le.trans hr.1
  have hs0 := (pow_pos one_sub_u_pos j).le
  refine ⟨r * s, ?_, by ring⟩
  rw [pow_add, pow_add]
  exact ⟨mul_le_mul hr.1 hs.1 hs0 hr0, mul_le_mul hr.2 hs.2 (hs0.trans hs.1) (pow_pos one_add_u_pos i).le⟩

theorem Near.div {i x X} (hx : Near i x X) (k : ℚ) : Near i (x / k) (X / k) := by
  obtain ⟨r, hr, rfl⟩ := hx
  exact ⟨r, hr, by ring⟩

/-- `z = x·s`, and `s` is 1 up to `j` roundings -/
theorem Near.trans {i j z x X} (hz : Near j z x) (hx : Near i x X) : Near (i + j) z X := by
  obtain ⟨s, hs, rfl⟩ := hz
  simpa using hx.mul ⟨s, hs, (one_mul s).symm⟩

theorem near_rnd (n d : Nat) (hd : 0 < d) : Near 1 (rnd n d).val ((n : ℚ) / d) := by
  rcases Nat.eq_zero_or_pos n with rfl | hn
  · exact ⟨1, by unfold u; norm_num, by simp [rnd, F.val]⟩
  · have hq : (0 : ℚ) < (n : ℚ) / d := by positivity
    have h := abs_le.1 (rnd_relerr n d hd)
    refine ⟨(rnd n d).val / ((n : ℚ) / d), ?_, (mul_div_cancel₀ _ hq.ne').symm⟩
    rw [pow_one, pow_one, le_div_iff₀ hq, div_le_iff₀ hq]
    unfold u
    exact ⟨by linarith only [h.1], by linarith only [h.2]⟩

/-- `z` is the correctly rounded value of the exact result `q` of an operation -/
def IsRnd (z : F) (q : ℚ) : Prop := ∃ n d : Nat, 0 < d ∧ z = rnd n d ∧ (n : ℚ) / d = q

theorem IsRnd.near {z : F} {q : ℚ} (h : IsRnd z q) : Near 1 z.val q := by
  obtain ⟨n, d, hd, rfl, rfl⟩ := h
  exact near_rnd n d hd

theorem isRnd_ofNat (a : Nat) : IsRnd (ofNat a) a := ⟨a, 1, one_pos, rfl, by simp⟩

theorem isRnd_mul (x y : F) : IsRnd (mul x y) (x.val * y.val) := by
  have hprod : x.val * y.val = x.m * y.m * (2 : ℚ) ^ (x.e + y.e) := by
    unfold F.val; rw [zpow_add₀ two_ne_zero]; ring
  unfold mul
  simp only
  split
  · rename_i h
    exact ⟨_, 1, one_pos, rfl, by rw [hprod, two_zpow_of_nonneg h]; push_cast; rw [div_one]⟩
  · rename_i h
    exact ⟨_, _, Nat.pow_pos two_pos, rfl, by rw [hprod, two_zpow_of_neg h, div_eq_mul_inv]; push_cast; rfl⟩

theorem isRnd_divNat (x : F) {k : Nat} (hk : 0 < k) : IsRnd (divNat x k) (x.val / k) :=
  ⟨_, _, Nat.mul_pos x.den_pos hk, rfl, by rw [Nat.cast_mul, ← div_div, F.num_div_den]⟩

theorem near_ofNat (a : Nat) : Near 1 (ofNat a).val a := (isRnd_ofNat a).near

theorem near_fmul {i j : ℕ} {X Y : ℚ} {x y : F} (hx : Near i x.val X) (hy : Near j y.val Y) :
    Near (i + j + 1) (mul x y).val (X * Y) := (isRnd_mul x y).near.trans (hx.mul hy)

theorem near_fdiv {i : ℕ} {X : ℚ} {x : F} (hx : Near i x.val X) {k : Nat} (hk : 0 < k) :
    Near (i + 1) (divNat x k).val (X / k) := (isRnd_divNat x hk).near.trans (hx.div k)

theorem feeRateTotalParts_pos : 0 < Pool.Gen.Reserve.feeRateTotalParts := by decide

def exactPremium (amt rate dur : Nat) : ℚ :=
  (amt : ℚ) * rate * dur / (Pool.Gen.Reserve.feeRateTotalParts : ℚ)

theorem exactPremium_nonneg (a r d : Nat) : 0 ≤ exactPremium a r d := by
  unfold exactPremium; positivity

theorem near_premiumF (a r d : Nat) : Near 6 (premiumF a r d).val (exactPremium a r d) := by
  -- six roundings: the conversions of `a`, `r`, `d` and the three operations
  have h := near_fmul (near_fdiv (near_fmul (near_ofNat a) (near_ofNat r)) feeRateTotalParts_pos) (near_ofNat d)
  unfold premiumF exactPremium
  convert h using 1
  ring

theorem premium_near (a r d : Nat) :
    exactPremium a r d * (1 - 1 / 2 ^ 50) - 1 < (premium a r d : ℚ) ∧
    (premium a r d : ℚ) ≤ exactPremium a r d * (1 + 1 / 2 ^ 50) := by
  obtain ⟨ρ, hρ, hN⟩ := near_premiumF a r d
  have hf := floor_bounds (premiumF a r d)
  have hE := exactPremium_nonneg a r d
  have h1 : (1 : ℚ) - 1 / 2 ^ 50 ≤ (1 - u) ^ 6 := by unfold u; norm_num
  have h2 : (1 + u) ^ 6 ≤ (1 : ℚ) + 1 / 2 ^ 50 := by unfold u; norm_num
  unfold premium
  constructor
  · have := mul_le_mul_of_nonneg_left (h1.trans hρ.1) hE
    linarith [hf.2]
  · have := mul_le_mul_of_nonneg_left (hρ.2.trans h2) hE
    linarith [hf.1]

end Pool.Float64
