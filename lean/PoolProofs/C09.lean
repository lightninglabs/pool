import PoolProofs.C09Lemmas
import PoolModel.Generated.C09Facts

/-!
# C09 — every tracked account is reported expired once, at or after its expiry height

The watcher refines the specification machine `Spec` (`C09_refines_*`).  The property is stated over histories with a
ghost record `G` per account, computed from the ops and the notifications emitted, not from the model's maps.
`C09_exactly_once` holds after *every* prefix: nothing before the registration is due, one notification at the op at
which it becomes due, none afterwards, none for a superseded registration (the next `add` resets the ghost).
-/
namespace Pool.C09

/-- the per-height buckets are representation only -/
def abs (s : St) : Spec := { best := s.best, pending := s.exp }

/-- **C09 / refinement, state**: the watcher *is* the spec "at most one live registration per account, gone once due". -/
theorem C09_refines_state (s : St) (op : Op) (hI : Inv s) :
    abs (step selUpTo s op).1 = (abs s).step op := by
  cases op with
  | add k h =>
    unfold step Spec.step abs
    by_cases hle : h ≤ s.best <;> simp [hle]
  | block b =>
    unfold step Spec.step abs
    simp only [Spec.mk.injEq, true_and]
    funext k
    rw [visit_exp, hI.fired_eq]
    cases s.exp k with
    | none => rfl
    | some h => by_cases hb : h ≤ b <;> simp [Option.filter_some, hb]

/-- **C09 / refinement, outputs** -/
theorem C09_refines_fires (s : St) (op : Op) (hI : Inv s) (k : Key) :
    (Spec.fires (abs s) op k → cnt (step selUpTo s op).2 k = 1) ∧
    (¬ Spec.fires (abs s) op k → cnt (step selUpTo s op).2 k = 0) := by
  cases op with
  | add k0 h =>
    by_cases hle : h ≤ s.best
    · by_cases hk : k = k0 <;> simp [step, Spec.fires, abs, cnt, hle, hk, Ne.symm]
    · simp [step, Spec.fires, abs, cnt, hle]
  | block b =>
    unfold step Spec.fires abs
    simp only
    rw [visit_cnt, hI.fired_eq]
    cases s.exp k with
    | none => simp
    | some h => by_cases hb : h ≤ b <;> simp [Option.filter_some, hb]

theorem C09_refines_run (ops : List Op) :
    abs (final selUpTo init ops) = Spec.final Spec.init ops := by
  have gen : ∀ (s : St), Inv s → abs (final selUpTo s ops) = Spec.final (abs s) ops := by
    induction ops with
    | nil => intro s _; rfl
    | cons op ops ih =>
      intro s hI
      simp only [final, Spec.final]
      rw [ih _ (inv_step s op hI), C09_refines_state s op hI]
  exact gen init inv_init

/-- ghost record of an account's latest (= live, not superseded) registration: its height, whether `best ≥ h` has held
at some moment since it was made (incl. that moment), the number of notifications since then -/
structure G where
  h : Nat
  wasDue : Bool
  count : Nat
deriving Repr, DecidableEq

def gstep (g : Key → Option G) (bestAfter : Nat) (op : Op) (out : List (Key × Nat)) : Key → Option G :=
  fun k =>
    let upd : Option G := (g k).map fun x =>
      { x with wasDue := x.wasDue || decide (x.h ≤ bestAfter), count := x.count + cnt out k }
    match op with
    | .add k' h => if k = k' then some { h := h, wasDue := decide (h ≤ bestAfter), count := cnt out k } else upd
    | .block _ => upd

def grun (sel : Sel) : St → (Key → Option G) → List Op → St × (Key → Option G)
  | s, g, [] => (s, g)
  | s, g, op :: ops =>
    let r := step sel s op
    grun sel r.1 (gstep g r.1.best op r.2) ops

def Coupled (s : St) (g : Key → Option G) : Prop :=
  Inv s ∧ ∀ k, match g k with
    | none => s.exp k = none
    | some x => (x.wasDue = true → s.exp k = none ∧ x.count = 1) ∧
                (x.wasDue = false → s.exp k = some x.h ∧ x.count = 0)

theorem coupled_init : Coupled init (fun _ => none) := ⟨inv_init, fun _ => rfl⟩

theorem coupled_step (s : St) (g : Key → Option G) (op : Op) (hc : Coupled s g) :
    Coupled (step selUpTo s op).1 (gstep g (step selUpTo s op).1.best op (step selUpTo s op).2) := by
  obtain ⟨hI, hg⟩ := hc
  refine ⟨inv_step s op hI, fun k => ?_⟩
  -- by the refinement, the new state is the spec's and `k` is notified once or not at all as the spec fires `k`
  have hst := C09_refines_state s op hI
  rw [show (step selUpTo s op).1.exp = ((abs s).step op).pending from congrArg Spec.pending hst,
    show (step selUpTo s op).1.best = ((abs s).step op).best from congrArg Spec.best hst]
  obtain ⟨hf1, hf0⟩ := C09_refines_fires s op hI k
  have hgk := hg k
  cases op with
  | add k0 h0 =>
    by_cases hk : k = k0
    · subst hk
      by_cases hle : h0 ≤ s.best
      · simp [gstep, Spec.step, abs, erase, hle, hf1 ⟨rfl, hle⟩]
      · simp [gstep, Spec.step, abs, insert, hle, hf0 (fun h => hle h.2)]
    · have hc0 := hf0 (fun h => hk h.1)
      have hexp : ((abs s).step (.add k0 h0)).pending k = s.exp k := by
        by_cases hle : h0 ≤ s.best <;> simp [Spec.step, abs, erase, insert, hle, hk]
      have hbest : ((abs s).step (.add k0 h0)).best = s.best := by
        by_cases hle : h0 ≤ s.best <;> simp [Spec.step, abs, hle]
      rw [hexp, hbest]
      simp only [gstep, hk, if_false, hc0]
      -- `k`'s ghost could only change by becoming due at the unchanged best height: a pending `k` is not (`Inv`)
      cases hgv : g k with
      | none => simpa [hgv] using hgk
      | some x =>
        simp only [hgv] at hgk
        cases hw : x.wasDue with
        | true => simpa [hw] using hgk.1 hw
        | false =>
          have h2 := hgk.2 hw
          have : ¬ x.h ≤ s.best := Nat.not_le.mpr (hI k x.h h2.1).2
          simpa [hw, this] using h2
  | block b =>
    simp only [Spec.step, Spec.fires, abs, gstep] at hf1 hf0 ⊢
    cases hgv : g k with
    | none =>
      simp only [hgv] at hgk
      simp [hgk]
    | some x =>
      simp only [hgv] at hgk
      cases hw : x.wasDue with
      | true =>
        obtain ⟨he, hc1⟩ := hgk.1 hw
        simp [he, hc1, hw, hf0 (by simp [he])]
      | false =>
        obtain ⟨he, hc0⟩ := hgk.2 hw
        by_cases hd : x.h ≤ b
        · simp [he, hc0, hw, hd, hf1 ⟨x.h, he, hd⟩]
        · simp [he, hc0, hw, hd, hf0 (by simp [he, hd])]

theorem coupled_grun (s : St) (g : Key → Option G) (ops : List Op) (hc : Coupled s g) :
    Coupled (grun selUpTo s g ops).1 (grun selUpTo s g ops).2 := by
  induction ops generalizing s g with
  | nil => exact hc
  | cons op _ ih => exact ih _ _ (coupled_step s g op hc)

/-- **C09, main theorem.**  After every history, every account's live registration has been notified
exactly once if it has been due at some moment since it was made, and not at all otherwise. -/
theorem C09_exactly_once (ops : List Op) (k : Key) (x : G)
    (hx : (grun selUpTo init (fun _ => none) ops).2 k = some x) :
    x.count = if x.wasDue then 1 else 0 := by
  have hc := (coupled_grun init _ ops coupled_init).2 k
  rw [hx] at hc
  cases hw : x.wasDue with
  | true => simpa using (hc.1 hw).2
  | false => simpa using (hc.2 hw).2

/-- **C09, never early**: an op notifies only an account whose live registration height `h` (the one the op makes,
or the tracked one) is at or below the best height after the op. -/
theorem C09_never_early (ops : List Op) (op : Op) (k : Key) (r : Nat)
    (hm : (k, r) ∈ (step selUpTo (final selUpTo init ops) op).2) :
    ∃ h, h ≤ (step selUpTo (final selUpTo init ops) op).1.best ∧
      ((op = .add k h) ∨ ((final selUpTo init ops).exp k = some h ∧ ∃ b, op = .block b)) := by
  cases op with
  | add k0 h0 =>
    -- only an already expired registration is handed off at once
    by_cases hle : h0 ≤ (final selUpTo init ops).best
    · rw [step, if_pos hle] at hm ⊢
      cases List.mem_singleton.mp hm
      exact ⟨h0, hle, .inl rfl⟩
    · rw [step, if_neg hle] at hm
      cases hm
  | block b =>
    obtain ⟨hk, -, hs⟩ := fired_eq_some.mp (visit_mem _ _ _ _ k r hm)
    exact ⟨r, of_decide_eq_true hs, .inr ⟨hk, b, rfl⟩⟩

/-- accounts that were never registered are never notified (over any coupled state, e.g. those reached by
`coupled_grun`; `g k = none` says that no `add k` has occurred) -/
theorem C09_unregistered_silent (s : St) (g : Key → Option G) (op : Op) (k : Key)
    (hc : Coupled s g) (hn : g k = none) (hop : ∀ h, op ≠ .add k h) :
    cnt (step selUpTo s op).2 k = 0 := by
  have hk : s.exp k = none := by simpa [hn] using hc.2 k
  -- the spec fires only a registration of `k` itself or a pending `k`
  refine (C09_refines_fires s op hc.1 k).2 fun hf => ?_
  cases op with
  | add k0 h0 => exact hop h0 (by rw [hf.1])
  | block b =>
    obtain ⟨h, hh, _⟩ := hf
    rw [show (abs s).pending k = s.exp k from rfl, hk] at hh
    cases hh

/-- Go iterates the bucket map in no fixed order: the visiting order is irrelevant. -/
theorem C09_visit_order_irrelevant (sel : Sel) (b : Nat) (l l' : List (Nat × Key)) (e : Key → Option Nat)
    (hperm : ∀ p, p ∈ l ↔ p ∈ l') (k : Key) :
    (visit sel b l e).1 k = (visit sel b l' e).1 k ∧
    cnt (visit sel b l e).2 k = cnt (visit sel b l' e).2 k := by
  have : fired sel b l e k = fired sel b l' e k := by simp only [fired, hperm]
  rw [visit_exp, visit_exp, visit_cnt, visit_cnt, this]
  exact ⟨rfl, rfl⟩

/-- Tie to the source (facts regenerated from the Go source on every run): the model's atomic-op granularity and its
three guards (`selUpTo`, the immediate hand-off of `add`, the skip test of `visit`) are those of the
current `account/watcher/watcher.go`; the mutex is touched nowhere else, so no callee releases it midway. -/
theorem C09_source_shape :
    Gen.C09.newBlockLocked = true ∧ Gen.C09.addLocked = true ∧
    Gen.C09.bucketCond = "height <= bestHeight" ∧
    Gen.C09.addExpiredCond = "expiry <= bestHeight" ∧
    Gen.C09.overdueSkipCond = "!$ok || $cur != $height" ∧
    Gen.C09.mutexUses = ["NewBlock:w.expirationsMtx.Lock()", "NewBlock:defer w.expirationsMtx.Unlock()",
      "AddAccountExpiration:w.expirationsMtx.Lock()", "AddAccountExpiration:defer w.expirationsMtx.Unlock()"] :=
  ⟨rfl, rfl, rfl, rfl, rfl, rfl⟩

def witnessOps : List Op := [.add 1 5, .block 10]

/-- Under the rule of the pinned tree (`selExact`: only the bucket of exactly the new height) a registration made before
any block is known is due after `block 10` but was never notified. -/
theorem C09_exact_rule_false :
    ∃ x, (grun selExact init (fun _ => none) witnessOps).2 1 = some x ∧
      x.wasDue = true ∧ x.count = 0 := by
  refine ⟨⟨5, true, 0⟩, ?_, rfl, rfl⟩
  decide

/-- …whereas `selUpTo` notifies it (non-vacuity of `C09_exactly_once`: `wasDue` reachable). -/
example : (grun selUpTo init (fun _ => none) witnessOps).2 1 = some ⟨5, true, 1⟩ := by decide

/-- non-vacuity: a pending, not yet due registration (count 0) and a superseded one -/
example : (grun selUpTo init (fun _ => none) [.block 3, .add 1 5, .add 1 9, .block 6]).2 1
    = some ⟨9, false, 0⟩ := by decide

end Pool.C09
