import PoolProofs.C07LemmasSpend
import PoolProofs.C07LemmasWeight
/-! The common specification of an accepted withdrawal / renewal (both run `valueAfterAccountUpdate`,
`createNewAccountOutput`, `createSpendTx`, `spendAccount`). -/
namespace Pool.C07
open Pool.Gen.C07

/-- account scripts are 34 bytes (P2WSH / P2TR) – the only thing assumed of the uninterpreted script function -/
def ScriptLen34 (so : ScriptOf) : Prop := ∀ v e c, (so v e c).length = 34

/-- What an accepted withdrawal / renewal broadcast and recorded (`ne` = new expiry if any, `nv` = requested version). -/
def ModifySpec (so : ScriptOf) (a : Account) (outputs : List TxOut) (rate : Int) (wt : Nat) (ne : Option UInt32)
    (nv : Nat) (res : OpResult) : Prop :=
  ∃ (tx : Tx) (acct' : Account) (newOut : TxOut) (w idx : Nat) (pre : List Effect),
    -- one auctioneer request (always the cooperative path), then the store write, then the broadcast
    res.tx = some tx ∧ res.account = some acct' ∧
    res.trace = pre ++ [.storeWrite acct', .publish tx] ∧ pre.length = 1 ∧ (∀ e ∈ pre, e.isModify = true) ∧
    (wt = wt_multiSigWitness ∨ wt = wt_muSig2Taproot) ∧
    tx.inputs.map (·.prev) = [a.outPoint] ∧ tx.lockTime = 0 ∧
    tx.outputs.Perm (newOut :: outputs) ∧
    newOut = acct'.output so ∧
    -- the recorded outpoint designates the re-created output, the only output carrying the new account script
    acct'.outPoint = ⟨selfHash, idx⟩ ∧ tx.outputs[idx]? = some newOut ∧
    newOut.script ∉ outputs.map (·.script) ∧
    -- conservation: new = old − withdrawn − fee, fee = rate · W / 1000, W the full weight of the broadcast tx
    witnessSize wt = some w ∧
    acct'.value = a.value - sumValues outputs - feeForWeight rate (fullWeight tx w) ∧
    feeForWeight FeePerKwFloor (fullWeight tx w) ≤ feeForWeight rate (fullWeight tx w) ∧
    (MinAccountValue : Int) ≤ acct'.value ∧
    (∀ o ∈ tx.outputs, isDustOutput o = false ∧ 0 ≤ o.value) ∧
    acct'.version = max a.version nv ∧ acct'.batchCtr = a.batchCtr + 1 ∧
    acct'.state = StatePendingUpdate ∧ acct'.expiry = ne.getD a.expiry

theorem modify_spec {so : ScriptOf} (hso : ScriptLen34 so) {a : Account} {outputs : List TxOut} {rate : Int}
    {best : UInt32} {nv : Nat} {f : Faults} {ne : Option UInt32} {v : Int} {wt : Nat} {action : Action}
    {res : OpResult} (hact : action ≠ .close) (g : ModifyPassed so a action outputs rate wt ne nv best f v res)
    (h : res.refusal = none) : ModifySpec so a outputs rate wt ne nv res := by
  obtain ⟨idx, pre, _, rfl, hnew, hcoop, hl, hsan, hpre1, hpre2, heq⟩ := spendAccount_modify_ok hact g.eq h
  obtain ⟨hmin, w, t, hw, hloop, hv⟩ := vau_ok g.value
  obtain ⟨hdust, _, w', hw', hfloor⟩ := sanityCheck_acctSpend hsan
  obtain rfl : w = w' := Option.some.inj (hw.symm.trans hw')
  have hfresh := g.fresh
  generalize (createNewAccountOutput so a v ne nv).1 = newOut at *
  rw [← hnew] at hl
  have hlen : newOut.script.length = 34 := by rw [hnew]; exact hso _ _ _
  have hnv : newOut.value = v := by rw [hnew]; rfl
  -- the fee is charged on the weight of the transaction really built
  have hweight := vau_weight_eq (so := so) (a := a) hloop newOut hlen 0
  have hperm := sortBy_perm outLt (newOut :: outputs)
  rw [heq]
  refine ⟨_, _, newOut, w, idx, pre, rfl, rfl, rfl, hpre1, hpre2, hcoop, rfl, rfl, hperm, hnew, rfl, ?_, hfresh, hw,
    ?_, ?_, hmin, ?_, rfl, rfl, rfl, rfl⟩
  · -- only the re-created output carries the new account script
    apply locateScript_unique hl
    intro o ho hs
    rcases List.mem_cons.mp (hperm.mem_iff.mp ho) with rfl | hmem
    · rfl
    · exact absurd (List.mem_map.mpr ⟨o, hmem, hs⟩) hfresh
  · rw [← hweight]; exact hv
  · rw [← hweight] at hfloor ⊢
    rw [sumValues_cons, hnv] at hfloor
    omega
  · exact fun o ho => hdust o (hperm.mem_iff.mp ho)

end Pool.C07
