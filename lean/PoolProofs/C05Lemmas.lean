import PoolModel.C05
/-! What each function of the C05 model does, outcome by outcome: the sighash preimage (injective for the types the
Go source uses), the signer loop and the storer as pointwise relations (`SigFor`, `RowFor`), `BatchSign` through the
one case distinction `batchSign_cases`, and the same for `OrderMatchValidate`, `BatchFinalize` and the sign step of a
history. -/
namespace Pool.C05
open Pool.Gen.C05

theorem htP2wsh_eq : htP2wsh = 1 := by decide +kernel
theorem htTaproot_eq : htTaproot = 0 := by decide +kernel

/-- base DEFAULT or ALL and no ANYONECANPAY: the sighash commits to the whole transaction -/
theorem preimage_injective_of {t : Bool} {ht : Nat} {tx tx' : Tx} {idx idx' : Nat} {sp sp' : List Out}
    (hb : ht % 128 = 0 ∨ ht % 128 = 1) (ha : ¬ht / 128 % 2 = 1)
    (h : preimage t ht tx idx sp = preimage t ht tx' idx' sp') : tx = tx' ∧ idx = idx' ∧ sp = sp' := by
  simp only [preimage, outsCommitted, insCommitted, if_pos hb, if_neg ha, Preimage.mk.injEq] at h
  obtain ⟨-, -, hi, hx, ho, hl, hs⟩ := h
  cases tx
  cases tx'
  exact ⟨by simp_all, hx, hs⟩

theorem preimage_injective (t : Bool) (tx tx' : Tx) (idx idx' : Nat) (sp sp' : List Out)
    (h : preimage t (if t then htTaproot else htP2wsh) tx idx sp =
         preimage t (if t then htTaproot else htP2wsh) tx' idx' sp') :
    tx = tx' ∧ idx = idx' ∧ sp = sp' := by
  cases t
  all_goals
    simp only [Bool.false_eq_true, if_true, if_false, htP2wsh_eq, htTaproot_eq] at h
    exact preimage_injective_of (by decide) (by decide) h

theorem findInputFrom_spec (op : OutPoint) (l : List OutPoint) (i : Nat) (acc : Option Nat) (r : Nat)
    (h : findInputFrom op l i acc = some r) :
    acc = some r ∨ ∃ k, r = i + k ∧ l[k]? = some op := by
  fun_induction findInputFrom op l i acc with
  | case1 => exact .inl h
  | case2 x xs i acc ih =>
    rcases ih h with h1 | ⟨k, rfl, hk⟩
    · split at h1
      · cases h1
        exact .inr ⟨0, rfl, by simp [*]⟩
      · exact .inl h1
    · exact .inr ⟨k + 1, by rw [Nat.add_assoc, Nat.add_comm 1], hk⟩

theorem findInput_spec (ins : List OutPoint) (op : OutPoint) (r : Nat)
    (h : findInput ins op = some r) : ins[r]? = some op := by
  rcases findInputFrom_spec op ins 0 none r h with h1 | ⟨k, rfl, hk⟩
  · cases h1
  · rwa [Nat.zero_add]

theorem getAccount_key (db : DB) (k : Key) (a : Acct) (h : getAccount db k = some a) : a.key = k := by
  unfold getAccount at h
  simpa using List.find?_some h

/-- core-only stand-in for `List.Forall₂` -/
inductive Forall2 {α β : Type} (R : α → β → Prop) : List α → List β → Prop
  | nil : Forall2 R [] []
  | cons {a b l₁ l₂} : R a b → Forall2 R l₁ l₂ → Forall2 R (a :: l₁) (b :: l₂)

theorem Forall2.exists_of_mem_left {α β : Type} {R : α → β → Prop} {l₁ : List α} {l₂ : List β}
    (h : Forall2 R l₁ l₂) {a : α} (ha : a ∈ l₁) : ∃ b, b ∈ l₂ ∧ R a b := by
  induction h with
  | nil => cases ha
  | cons hr _ ih =>
    rcases List.mem_cons.1 ha with rfl | ha
    · exact ⟨_, List.mem_cons_self, hr⟩
    · obtain ⟨b, hb, hR⟩ := ih ha
      exact ⟨b, List.mem_cons_of_mem _ hb, hR⟩

theorem Forall2.length_eq {α β : Type} {R : α → β → Prop} {l₁ : List α} {l₂ : List β}
    (h : Forall2 R l₁ l₂) : l₁.length = l₂.length := by
  induction h with
  | nil => rfl
  | cons _ _ ih => simp [ih]

theorem Forall2.map_eq {α β γ : Type} {R : α → β → Prop} {f : α → γ} {g : β → γ} {l₁ : List α} {l₂ : List β}
    (h : Forall2 R l₁ l₂) (hR : ∀ a b, R a b → g b = f a) : l₂.map g = l₁.map f := by
  induction h with
  | nil => rfl
  | cons hr _ ih => simp [hR _ _ hr, ih]

/-- `σ` is the ideal signature `batchSigner.Sign` produces for diff `d`: by the stored account's key, over
the sighash preimage of `tx` at the input that spends the STORED outpoint -/
def SigFor (db : DB) (tx : Tx) (prev : List Out) (d : Diff) (σ : Sig) : Prop :=
  ∃ a idx, getAccount db d.acct = some a ∧ findInput tx.ins a.outpoint = some idx ∧
    tx.ins[idx]? = some a.outpoint ∧ σ.key = d.acct ∧ σ.forOut = a.out ∧ σ.sver = a.version ∧
    σ.msg = (if a.version ≥ versionTaprootEnabled
             then preimage true htTaproot tx idx (prev.take tx.ins.length)
             else preimage false htP2wsh tx idx [a.out])

theorem signLoop_ok (db : DB) (b : Batch) (f : Faults) (ds : List Diff) (c : Ctr)
    (sigs : List Sig) (nonces : List Key) (S : List Sig) (N : List Key) (c' : Ctr)
    (h : signLoop db b f ds c sigs nonces = (.ok S N, c')) :
    ∃ new, S = sigs.reverse ++ new ∧ Forall2 (SigFor db b.tx b.prevOuts) ds new := by
  -- every early exit returns `.err`/`.panic`, which `h` rules out; the two branches that recurse (`case9`: MuSig2,
  -- `case11`: p2wsh) add one `SigFor`
  fun_induction signLoop db b f ds c sigs nonces with
  | case1 => cases h; exact ⟨[], by simp, .nil⟩
  | case9 _ _ _ _ _ _ _ a ha idx hidx hv _ _ _ _ _ _ σ ih
  | case11 _ _ _ _ _ _ _ a ha idx hidx hv _ _ σ ih =>
    obtain ⟨new, hS, hF⟩ := ih h
    exact ⟨σ :: new, by simp [hS], .cons ⟨a, idx, ha, hidx, findInput_spec _ _ _ hidx,
      getAccount_key _ _ _ ha, rfl, rfl, by simp [σ, hv]⟩ hF⟩
  | _ => cases h

theorem signerSign_ok (db : DB) (b : Batch) (f : Faults) (S : List Sig) (N : List Key) (c : Ctr)
    (h : signerSign db b f = (.ok S N, c)) :
    Forall2 (SigFor db b.tx b.prevOuts) b.diffs S := by
  obtain ⟨new, hS, hF⟩ := signLoop_ok db b f b.diffs _ _ _ S N c h
  simpa [hS] using hF

/-- `r` is the row `batchStorer.StorePendingBatch` stages for diff `d`: the STORED account with the diff's
modifiers applied -/
def RowFor (db : DB) (d : Diff) (r : Acct) : Prop :=
  ∃ a, getAccount db d.acct = some a ∧ r = stagedRow a d

theorem RowFor.key {db : DB} {d : Diff} {r : Acct} (h : RowFor db d r) : r.key = d.acct := by
  obtain ⟨a, ha, rfl⟩ := h
  rw [← getAccount_key _ _ _ ha]
  unfold stagedRow
  split <;> rfl

theorem storerRows_rows (db : DB) (f : Faults) (ds : List Diff) (n : Nat) (rows : List Acct)
    (h : storerRows db f ds n = some rows) : Forall2 (RowFor db) ds rows := by
  fun_induction storerRows db f ds n generalizing rows with
  | case1 => cases h; exact .nil
  | case4 d rest n _ a ha ih =>
    obtain ⟨rs, hr, rfl⟩ := Option.map_eq_some_iff.1 h
    exact .cons ⟨a, ha, rfl⟩ (ih rs hr)
  | _ => cases h

theorem storePending_some (db : DB) (b : Batch) (f : Faults) (n : Nat) (db' : DB)
    (h : storePending db b f n = some db') :
    ∃ rows, db' = { db with staged := some { id := b.id, tid := b.tid, tx := b.tx, rows := rows } } ∧
      f.st = .none ∧ b.snapOk = true ∧ Forall2 (RowFor db) b.diffs rows := by
  unfold storePending at h
  split at h
  · cases h
  · split at h
    · cases h
    · rename_i rows hrows
      split at h
      · cases h
      · cases h
      · rename_i hst
        split at h
        · cases h
        · rename_i hsnap
          cases h
          exact ⟨rows, rfl, hst, by simpa using hsnap, storerRows_rows _ _ _ _ _ hrows⟩

/-- a batch without the volatile Sign-message data (`ServerNonces`, `PreviousOutputs`) -/
def Batch.core (b : Batch) : Batch := { b with nonces := [], prevOuts := [] }

/-- What a successful `BatchSign` on pending batch `b` hands out and leaves behind: `S` are the ideal
signatures for `b`'s diffs over `b.tx` (taproot ones with prevouts `pv`), and the staging area `sg` holds `b`
with the row each diff prescribes. -/
structure SignedAndStaged (db : DB) (pv : List Out) (b : Batch) (S : List Sig) (sg : Option Staged) : Prop where
  sigs : Forall2 (SigFor db b.tx pv) b.diffs S
  staged : ∃ rows, sg = some { id := b.id, tid := b.tid, tx := b.tx, rows := rows } ∧
    Forall2 (RowFor db) b.diffs rows

theorem SignedAndStaged.of_core {db : DB} {pv : List Out} {b b' : Batch} {S : List Sig} {sg : Option Staged}
    (h : SignedAndStaged db pv b S sg) (hc : b.core = b'.core) : SignedAndStaged db pv b' S sg := by
  cases b; cases b'
  simp only [Batch.core, Batch.mk.injEq, and_true] at hc
  obtain ⟨rfl, rfl, rfl, rfl, -⟩ := hc
  exact ⟨h.sigs, h.staged⟩

theorem batchSign_eq_spec (s : St) (f : Faults) : batchSign s f = batchSignSpec s f := by
  obtain ⟨pending, db⟩ := s
  unfold batchSign batchSignWith batchSignSpec batchSignProg
  cases hp : pending with
  | none => simp [bsStmt]
  | some b =>
    cases hs : signerSign db b f with
    | mk r c =>
      cases r with
      | panic => simp [bsStmt, hs]
      | err e => simp [bsStmt, hs]
      | ok sigs nonces =>
        cases hst : storePending db b f c.acalls with
        | none => simp [bsStmt, hs, hst]
        | some db' => simp [bsStmt, hs, hst]

theorem batchSign_cases (s : St) (f : Faults) :
    ((batchSign s f).1 = s ∧ ∀ S N, (batchSign s f).2 ≠ .ok S N) ∨
    ∃ b S N sg, s.pending = some b ∧ f.st = .none ∧ SignedAndStaged s.db b.prevOuts b S sg ∧
      batchSign s f = ({ s with db := { s.db with staged := sg } }, .ok S N) := by
  rw [batchSign_eq_spec]
  unfold batchSignSpec
  split
  · exact .inl ⟨rfl, nofun⟩
  · rename_i b hb
    split
    · exact .inl ⟨rfl, nofun⟩
    · exact .inl ⟨rfl, nofun⟩
    · rename_i S N c hs
      split
      · exact .inl ⟨rfl, nofun⟩
      · rename_i db' hst
        obtain ⟨rows, rfl, hf, _, hR⟩ := storePending_some _ _ _ _ _ hst
        exact .inr ⟨b, S, N, _, hb, hf,
          { sigs := signerSign_ok _ _ _ _ _ _ hs, staged := ⟨rows, rfl, hR⟩ }, rfl⟩

theorem batchSign_ok (s : St) (f : Faults) (S : List Sig) (N : List Key) (h : (batchSign s f).2 = .ok S N) :
    ∃ b, s.pending = some b ∧ f.st = .none ∧ SignedAndStaged s.db b.prevOuts b S (batchSign s f).1.db.staged := by
  rcases batchSign_cases s f with ⟨_, hno⟩ | ⟨b, _, _, _, hb, hf, hss, he⟩
  · exact absurd h (hno S N)
  · rw [he] at h ⊢
    cases h
    exact ⟨b, hb, hf, hss⟩

theorem batchSign_not_ok (s : St) (f : Faults) (hno : ∀ S N, (batchSign s f).2 ≠ .ok S N) :
    (batchSign s f).1 = s := by
  rcases batchSign_cases s f with ⟨h, _⟩ | ⟨_, S, N, _, _, _, _, he⟩
  · exact h
  · exact absurd (congrArg Prod.snd he) (hno S N)

theorem batchSign_no_pending (s : St) (f : Faults) (hb : s.pending = none) : batchSign s f = (s, .panic) := by
  simp [batchSign_eq_spec, batchSignSpec, hb]

theorem batchSign_store_fail (s : St) (f : Faults) (b : Batch) (S : List Sig) (N : List Key) (c : Ctr)
    (hb : s.pending = some b) (hs : signerSign s.db b f = (.ok S N, c))
    (hst : storePending s.db b f c.acalls = none) : batchSign s f = (s, .errStore) := by
  simp [batchSign_eq_spec, batchSignSpec, hb, hs, hst]

/-- a failing signer never reaches the storer -/
theorem batchSign_sign_fail (s : St) (f : Faults) (b : Batch) (e : SignErr) (c : Ctr)
    (hb : s.pending = some b) (hs : signerSign s.db b f = (.err e, c)) :
    batchSign s f = (s, .errSign e) := by
  simp [batchSign_eq_spec, batchSignSpec, hb, hs]

theorem validate_cases (verifyOk : St → Batch → Bool) (s : St) (b : Batch) :
    (∃ e, validate verifyOk s b = (s, some e)) ∨
    (verifyOk s b = true ∧ validate verifyOk s b = ({ s with pending := some b }, none)) := by
  unfold validate
  cases verifyOk s b with
  | false => exact .inl ⟨_, rfl⟩
  | true =>
    cases checkMatches s.db b.matched with
    | some e => exact .inl ⟨e, rfl⟩
    | none => exact .inr ⟨rfl, rfl⟩

theorem finalize_cases (s : St) (id : Nat) (mf : Bool) :
    ((finalize s id mf).1 = s ∧ (finalize s id mf).2 ≠ .ok) ∨
    ∃ db', finalize s id mf = ({ pending := none, db := db' }, .ok) := by
  unfold finalize
  cases s.pending with
  | none => exact .inl ⟨rfl, nofun⟩
  | some b =>
    dsimp only
    by_cases hid : id ≠ b.id
    · rw [if_pos hid]
      exact .inl ⟨rfl, nofun⟩
    · rw [if_neg hid]
      cases mf with
      | true => exact .inl ⟨rfl, nofun⟩
      | false =>
        cases markComplete s.db with
        | none => exact .inl ⟨rfl, nofun⟩
        | some db' => exact .inr ⟨db', rfl⟩

theorem attachAux_core (s : St) (ns : List Key) (pv : List Out) :
    (attachAux s ns pv).pending.map Batch.core = s.pending.map Batch.core := by
  cases h : s.pending <;> simp [attachAux, h, Batch.core]

/-- `s0` and `s` agree on what `BatchSign` reads apart from the Sign-message data: the pending batch up to
`nonces`/`prevOuts`, the account rows and the order rows (the staging area is free) -/
structure SameCore (s0 s : St) : Prop where
  pending : s0.pending.map Batch.core = s.pending.map Batch.core
  accts : s0.db.accts = s.db.accts
  orders : s0.db.orders = s.db.orders

theorem SameCore.attach {s0 s : St} (h : SameCore s0 s) (ns : List Key) (pv : List Out) :
    SameCore (attachAux s0 ns pv) s :=
  ⟨(attachAux_core s0 ns pv).trans h.pending, h.accts, h.orders⟩

theorem SameCore.batchSign {s0 s : St} (h : SameCore s0 s) (f : Faults) : SameCore (batchSign s0 f).1 s := by
  rcases batchSign_cases s0 f with ⟨he, _⟩ | ⟨_, _, _, _, _, _, _, he⟩
  · rwa [he]
  · rw [he]
    exact ⟨h.pending, h.accts, h.orders⟩

theorem step_sign_same (verifyOk : St → Batch → Bool) (s : St) (f : Faults) (ns : List Key) (pv : List Out) :
    SameCore (step verifyOk s (.sign f ns pv)).1 s := by
  simp only [step]
  exact (SameCore.attach ⟨rfl, rfl, rfl⟩ ns pv).batchSign f

/-- a sign request that returns signatures, in terms of the state before it: `b` is the pending batch as it stood
(the Sign message's data not yet attached), `pv` are the prevouts of the message -/
theorem step_sign_ok (verifyOk : St → Batch → Bool) (s : St) (f : Faults) (ns : List Key) (pv : List Out)
    (S : List Sig) (N : List Key) (h : (step verifyOk s (.sign f ns pv)).2 = .sign (.ok S N)) :
    ∃ b, s.pending = some b ∧ f.st = .none ∧
      SignedAndStaged s.db pv b S (step verifyOk s (.sign f ns pv)).1.db.staged := by
  obtain ⟨b', hb', hf, hss⟩ := batchSign_ok (attachAux s ns pv) f S N (Res.sign.inj h)
  -- by the definition of `attachAux`, `b'` is `{ b with nonces := ns, prevOuts := pv }` for the pending `b` of `s`: its
  -- `prevOuts` are `pv`, its `core` is that of `b`; and `attachAux` leaves `db` alone
  obtain ⟨b, hb, rfl⟩ := Option.map_eq_some_iff.1 hb'
  exact ⟨b, hb, hf, hss.of_core rfl⟩

theorem step_sign_not_ok (verifyOk : St → Batch → Bool) (s : St) (f : Faults) (ns : List Key) (pv : List Out)
    (hno : ∀ S N, (step verifyOk s (.sign f ns pv)).2 ≠ .sign (.ok S N)) :
    (step verifyOk s (.sign f ns pv)).1.db = s.db := by
  rw [step, batchSign_not_ok (attachAux s ns pv) f fun S N h => hno S N (congrArg Res.sign h)]
  rfl

end Pool.C05
