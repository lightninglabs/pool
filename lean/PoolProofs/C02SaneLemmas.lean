import PoolProofs.BatchSpec
/-! `NoOverflow`, the guard of `C02_accept_debits_exact`, lists the intermediate values that must fit `int64`/`uint32`.
`Sane` bounds the *inputs* instead: units are uint32 (wire type), self-funded balances between 0 and 2^49 sat (≈ 5.6
million BTC), execution base fee ≤ 2^50 sat, execution fee rate ≤ 4096 ppm, chain fee rate ≤ 2^32 sat/kw, fewer than
2^20 matches in the batch.  `C02_noOverflow_of_sane` (`C02Sane.lean`) derives the guard from them. -/
namespace Pool.C02
open Pool.Batch

def Sane (env : Env) (b : Batch) : Prop :=
  (∀ nm ∈ b.matched, ∀ t ∈ nm.2, t.unitsFilled < 2 ^ 32 ∧ 0 ≤ t.selfChanBalance ∧ t.selfChanBalance ≤ 2 ^ 49) ∧
  (∀ o ∈ env.orders, 0 ≤ o.selfChanBalance ∧ o.selfChanBalance ≤ 2 ^ 49) ∧
  (0 ≤ b.execBase ∧ b.execBase ≤ 2 ^ 50) ∧ (0 ≤ b.execRate ∧ b.execRate ≤ 2 ^ 12) ∧
  (0 ≤ b.feeRate ∧ b.feeRate ≤ 2 ^ 32) ∧
  (b.matched.map (·.2.length)).sum < 2 ^ 20

theorem chargedCount_le (env : Env) (b : Batch) (k : Key) :
    ((chargedTo env b k).map (·.2.length)).sum ≤ (b.matched.map (·.2.length)).sum := by
  unfold chargedTo
  generalize b.matched = l
  induction l with
  | nil => exact Nat.le_refl _
  | cons nm rest ih =>
    simp only [List.filterMap_cons, List.map_cons, List.sum_cons] at ih ⊢
    cases findOrder nm.1 env.orders with
    | none => simp only; omega
    | some o => by_cases hk : o.acctKey = k <;> simp only [hk, if_true, if_false, List.map_cons, List.sum_cons] <;> omega

theorem mul_bounds {x y X Y : Int} (hx0 : 0 ≤ x) (hx : x ≤ X) (hy0 : 0 ≤ y) (hy : y ≤ Y) :
    0 ≤ x * y ∧ x * y ≤ X * Y :=
  ⟨Int.mul_nonneg hx0 hy0, Int.mul_le_mul hx hy hy0 (Int.le_trans hx0 hx)⟩

theorem execFee_i64 {b : Batch} (hb0 : 0 ≤ b.execBase) (hb1 : b.execBase ≤ 2 ^ 50) (hr0 : 0 ≤ b.execRate)
    (hr1 : b.execRate ≤ 2 ^ 12) {x : Int} (hx0 : 0 ≤ x) (hx1 : x ≤ 2 ^ 50) :
    I64 (x * b.execRate) ∧ I64 (specExecFee b x) := by
  obtain ⟨hm0, hm1⟩ := mul_bounds hx0 hx1 hr0 hr1
  unfold I64 specExecFee
  rw [Int.tdiv_eq_ediv_of_nonneg hm0]
  omega

end Pool.C02
