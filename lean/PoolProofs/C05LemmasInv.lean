import PoolProofs.C05Lemmas
/-! The ghost run of a C05 history and the independent scan `lastOkValidate` (the definitions the history theorems are
stated with), and the inductive invariant `Inv` between model state and ghost. -/
namespace Pool.C05

structure Release where
  batch : Option Batch
  verifiedAt : Option St
  db : DB
  prev : List Out
  sigs : List Sig
  staged : Option Staged

structure Ghost where
  lastVerified : Option Batch
  verifiedAt : Option St
  log : List Release

/-- Which field changes is decided by the op and its result alone; what is stored also comes from the model state.
`lastVerified`: the batch of the most recent `validate` that returned success (cleared by a successful `finalize`),
`verifiedAt`: the state it was proposed in.  `log`: one `Release` per `sign` that returned signatures – the ghost's
`lastVerified` / `verifiedAt` at that moment, the database before the call, the prevouts of the Sign message, the
signatures, the staging area at return. -/
def gstep (verifyOk : St → Batch → Bool) (s : St) (g : Ghost) (op : Op) : St × Ghost :=
  let r := step verifyOk s op
  (r.1, match op, r.2 with
    | .validate b, .val none => { g with lastVerified := some b, verifiedAt := some s }
    | .finalize _ _, .fin .ok => { g with lastVerified := none, verifiedAt := none }
    | .sign _ _ pv, .sign (.ok sigs _) =>
      { g with log := ⟨g.lastVerified, g.verifiedAt, s.db, pv, sigs, r.1.db.staged⟩ :: g.log }
    | _, _ => g)

def grun (verifyOk : St → Batch → Bool) : St → Ghost → List Op → St × Ghost
  | s, g, [] => (s, g)
  | s, g, op :: ops => let r := gstep verifyOk s g op; grun verifyOk r.1 r.2 ops

def lastOkStep (cur : Option Batch) (x : Op × Res) : Option Batch :=
  match x with
  | (.validate b, .val none) => some b
  | (.finalize _ _, .fin .ok) => none
  | _ => cur

/-- scans a history's (op, result) pairs on its own – it looks neither at the model state nor at the ghost – and
returns the batch of the last `validate` that returned success, unless a successful `finalize` came after it -/
def lastOkValidate (xs : List (Op × Res)) : Option Batch := xs.foldl lastOkStep none

/-- what the property demands of one release -/
def GoodRelease (verifyOk : St → Batch → Bool) (r : Release) : Prop :=
  ∃ b s0, r.batch = some b ∧ r.verifiedAt = some s0 ∧ verifyOk s0 b = true ∧
    SignedAndStaged r.db r.prev b r.sigs r.staged

structure Inv (verifyOk : St → Batch → Bool) (s : St) (g : Ghost) : Prop where
  pending : s.pending.map Batch.core = g.lastVerified.map Batch.core
  verified : ∀ b, g.lastVerified = some b → ∃ s0, g.verifiedAt = some s0 ∧ verifyOk s0 b = true
  log : ∀ r ∈ g.log, GoodRelease verifyOk r

theorem inv_step (verifyOk : St → Batch → Bool) (s : St) (g : Ghost) (op : Op) (h : Inv verifyOk s g) :
    Inv verifyOk (gstep verifyOk s g op).1 (gstep verifyOk s g op).2 := by
  cases op with
  | validate b =>
    unfold gstep
    rcases validate_cases verifyOk s b with ⟨e, he⟩ | ⟨hvb, he⟩
    · rw [step, he]
      exact h
    · rw [step, he]
      exact ⟨rfl, fun b' hb' => by cases hb'; exact ⟨s, rfl, hvb⟩, h.log⟩
  | sign f ns pv =>
    have hp' := (step_sign_same verifyOk s f ns pv).pending.trans h.pending
    have hok := step_sign_ok verifyOk s f ns pv
    -- the step's result becomes a variable: the ghost only looks at its constructor
    unfold gstep
    generalize step verifyOk s (.sign f ns pv) = r at hp' hok
    obtain ⟨s', o⟩ := r
    cases o with
    | sign o =>
      cases o with
      | ok S N =>
        refine ⟨hp', h.verified, fun r hr => ?_⟩
        rcases List.mem_cons.1 hr with rfl | hr
        · -- the pending batch is the last verified one up to the volatile fields, which `SignedAndStaged` ignores
          obtain ⟨b, hb, _, hss⟩ := hok S N rfl
          obtain ⟨bl, hlv, hc⟩ := Option.map_eq_some_iff.1 (hb ▸ h.pending).symm
          obtain ⟨s0, hva, hvo⟩ := h.verified bl hlv
          exact ⟨bl, s0, hlv, hva, hvo, hss.of_core hc.symm⟩
        · exact h.log r hr
      | _ => exact ⟨hp', h.verified, h.log⟩
    | _ => exact ⟨hp', h.verified, h.log⟩
  | finalize id mf =>
    unfold gstep
    rw [step]
    rcases finalize_cases s id mf with ⟨he, hno⟩ | ⟨db', he⟩
    · rw [he]
      generalize (finalize s id mf).2 = o at hno
      cases o with
      | ok => exact absurd rfl hno
      | _ => exact h
    · rw [he]
      exact ⟨rfl, nofun, h.log⟩
  | unstage | modAcct => exact ⟨h.pending, h.verified, h.log⟩

theorem inv_grun (verifyOk : St → Batch → Bool) (s : St) (g : Ghost) (ops : List Op) (h : Inv verifyOk s g) :
    Inv verifyOk (grun verifyOk s g ops).1 (grun verifyOk s g ops).2 := by
  induction ops generalizing s g with
  | nil => exact h
  | cons op ops ih => exact ih _ _ (inv_step verifyOk s g op h)

theorem inv_reachable (verifyOk : St → Batch → Bool) (accts : List Acct) (orders : List Ord) (ops : List Op) :
    Inv verifyOk (grun verifyOk (initSt accts orders) ⟨none, none, []⟩ ops).1
      (grun verifyOk (initSt accts orders) ⟨none, none, []⟩ ops).2 :=
  inv_grun verifyOk _ _ ops ⟨rfl, by simp, by simp⟩

end Pool.C05
