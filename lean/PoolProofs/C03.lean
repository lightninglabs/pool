import PoolProofs.BatchLemmas
/-! C03 — an accepted batch funds a correct 2-of-2 channel output for every match.  The funding script bytes are the
uninterpreted function `env.fundScript (taproot?, ourKey, theirKey)` (supplied per run by direct calls to lnd's
`GenFundingPkScript` / `GenTaprootFundingScript`); the theorems hold for every such function, and for the code as
found and the repaired code alike (`rules` arbitrary). -/
namespace Pool.C03
open Pool.Batch

/-- `FundingOutput ∘ DetermineCommitmentType` over the regenerated case tables = the spec's rule -/
theorem commit_spec (a c : Nat) :
    fundingIsTaproot (determineCommitmentType a c) = impliesTaprootFunding a c := by
  rw [determineCommitmentType_eq, impliesTaprootFunding, chanScriptEnforced, chanSimpleTaproot]
  by_cases h1 : a = 1 ∨ c = 1 <;> by_cases h2 : a = 2 ∧ c = 2 <;>
    simp [h1, h2, fundingIsTaproot, Pool.Gen.Batch.taprootFundingCommitTypes, ← not_or]

theorem commit_symmetric (a c : Nat) : determineCommitmentType a c = determineCommitmentType c a := by
  simp only [determineCommitmentType_eq, or_comm, and_comm]

/-- the funding key `ChannelOutput` uses is the sidecar recipient's key iff our bid carries a ticket; a ticket
without recipient key, or a wallet error, rejects -/
theorem ourKey_sidecar (o : Ours) (k : Key) : ourFundingKey o = .ok k ↔ OurFundingKey o k := by
  unfold ourFundingKey OurFundingKey
  cases hA : o.isAsk <;> cases hs : o.sidecar with
  | none => cases hd : o.derivedKey <;> simp
  | some x => cases x <;> cases hd : o.derivedKey <;> simp

theorem channelOutput_ok {env : Env} {outs : List TxOut} {o : Ours} {t : Their}
    (h : channelOutput env outs o t = .ok ()) :
    ∃ k, ourFundingKey o = .ok k ∧ ∃ out ∈ outs, out.value = expectedOutputSize o t ∧
      env.fundScript (fundingIsTaproot (determineCommitmentType o.chanType t.chanType)) k t.multiSigKey =
        some out.script := by
  unfold channelOutput at h
  split at h
  · contradiction
  rename_i k hk
  simp only at h
  split at h
  · contradiction
  rename_i x hx
  simp only [fundingOutput, ite_error_eq_ok] at hx
  obtain ⟨_, hx⟩ := hx
  split at hx
  · contradiction
  rename_i s hs
  cases hx
  obtain ⟨out, hmem, hout⟩ := List.any_eq_true.mp (ite_else_error_eq_ok.mp h).1
  simp only [Bool.and_eq_true, beq_iff_eq] at hout
  exact ⟨k, hk, out, hmem, hout.1, hout.2 ▸ hs⟩

/-- **C03.** Whenever the batch is accepted, every match of every one of the trader's orders has its funding
output in the batch transaction. -/
theorem C03_accept_funds_channels (env : Env) (rules : Rules) (b : Batch) (best : UInt32) (st : Tallies)
    (hw : WireRanges b) (h : verify env rules b best = .ok st) : FundsChannels env b := by
  intro nm hnm
  obtain ⟨o, ho, _, hok⟩ := (Accepted.of_verify h).orders nm hnm
  refine ⟨o, ho, fun t ht => ?_⟩
  obtain ⟨k, hk, out, hmem, hval, hscr⟩ := channelOutput_ok (hok.matchesOk t ht).2
  refine ⟨k, (ourKey_sidecar o k).mp hk, out, hmem, ?_, commit_spec _ _ ▸ hscr⟩
  rw [hval, expectedOutputSize, toSatoshis_spec t ((hw nm hnm).2 t ht), Int.add_comm]
  rfl

/-- the same for the manager entry point -/
theorem C03_orderMatchValidate_funds_channels (env : Env) (rules : Rules) (b : Batch) (best : UInt32)
    (pending : Option String) (st : Tallies) (hw : WireRanges b)
    (h : (orderMatchValidate env rules b best pending).1 = .ok st) : FundsChannels env b :=
  C03_accept_funds_channels env rules b best st hw (orderMatchValidate_eq_ok.mp h).1

/-- **Regenerated fact.** In `ParseRPCServerOrder` the counterparty order's channel type is assigned only by the four
cases of the rpc channel-type switch (`Pool.Gen.Batch.rpcChanTypeTable`, which `parseTheir` interprets) – nothing
overrides it afterwards, e.g. depending on the order version. -/
theorem C03_channel_type_only_from_switch :
    Pool.Gen.Batch.serverOrderChanTypeAssignments = Pool.Gen.Batch.rpcChanTypeTable.length := by decide +kernel

/-- non-vacuity: the example proposal (p2wsh channel for the derived key, taproot channel for the sidecar
recipient's key) meets the hypotheses … -/
example : isOk (verify exEnv Rules.fixed exBatch 101) = true := exBatch_accepted
/-- … and is rejected when a channel output is 1 sat short, pays to the other script kind, or uses the wallet key
instead of the recipient's key. -/
example : isOk (verify exEnv Rules.fixed { exBatch with
    txOuts := [⟨299999, "fund-false-K1-M1"⟩, ⟨647808, "acct-A-1-40000"⟩, ⟨450000, "fund-true-R-M2"⟩] } 101) = false := by
  decide +kernel
example : isOk (verify exEnv Rules.fixed { exBatch with
    txOuts := [⟨300000, "fund-true-K1-M1"⟩, ⟨647808, "acct-A-1-40000"⟩, ⟨450000, "fund-true-R-M2"⟩] } 101) = false := by
  decide +kernel
example : isOk (verify exEnv Rules.fixed { exBatch with
    txOuts := [⟨300000, "fund-false-K1-M1"⟩, ⟨647808, "acct-A-1-40000"⟩, ⟨450000, "fund-true-K2-M2"⟩] } 101) = false := by
  decide +kernel

end Pool.C03
