import PoolProofs.C04LemmasNum
import PoolProofs.Guard

/-! C04: the interpreter on a witness whose script parses (`verify…_eq_run`), `run_simp` for running it on the two
account scripts, the taproot leaf at instruction level (`tap_run`); the witness-type tables regenerated from
account/manager.go read out once; one row of the batch storer's and verifier's programs (order/batch_*.go). -/
namespace Pool.C04

/-- what `parseScript` yields on `accountWitnessScript` (`parse_accountWitnessScript`) -/
def accountInstrs (expiry : Nat) (tk ak : Bytes) : List Instr :=
  [.push tk, .checksigverify, .push ak, .checksig, .ifdup, .notif, .push (scriptNumBytes expiry), .cltv, .endif]

/-- the same for `taprootExpiryScript` -/
def taprootInstrs (expiry : Nat) (tkx : Bytes) : List Instr :=
  [.push tkx, .checksigverify, .push (scriptNumBytes expiry), .cltv]

/-- context under txscript.StandardVerifyFlags -/
def stdCtx (tap : Bool) (lockTime sequence : Nat) (sigOK : Bytes → Bytes → Bool) : Ctx :=
  { tapscript := tap, lockTime := lockTime, sequence := sequence, sigOK := sigOK }

theorem asBool_one : asBool [1] = true := by decide
theorem asBool_nil : asBool [] = false := rfl

theorem opCLTV_num {N : Bytes} {e : Nat} (hN : NumOK N e) (c : Ctx) (hm : c.minimalData = true) (rest : List Bytes) :
    opCLTV c (N :: rest) =
      if cltvSatisfied c.lockTime c.sequence e then .ok (N :: rest) else .error .unsatisfiedLockTime := by
  simp [opCLTV, hm, hN.dec]
  intro h; omega

/-- `finalCheck` after a witness-v0 script left `top :: rest`; `tapFinal` is the same for a tapscript leaf -/
def v0Final (top : Bytes) (rest : List Bytes) : Except Err Unit :=
  if rest ≠ [] then .error .evalFalse else if asBool top then .ok () else .error .evalFalse

def tapFinal (top : Bytes) (rest : List Bytes) : Except Err Unit :=
  if rest ≠ [] then .error .cleanStack else if asBool top then .ok () else .error .evalFalse

theorem finalCheck_cons (c : Ctx) (top : Bytes) (rest : List Bytes) :
    finalCheck c ⟨top :: rest, []⟩ = if c.tapscript then tapFinal top rest else v0Final top rest := by
  cases h : c.tapscript <;> cases rest <;> simp [finalCheck, v0Final, tapFinal, h]

/-- symbolic execution of the interpreter on one of the two scripts.  Its tests are decided by the hypotheses in
the context (`*`): the bounds on the pushed items (`Nat.not_lt_of_le`), `opCLTV_num` at the pushed number, and what
the case at hand says about signatures and lock time -/
macro "run_simp" : tactic =>
  `(tactic| simp [accountInstrs, taprootInstrs, runScript, runInstrs, step, executing, opCheckSig, stdCtx, fromBool,
      asBool_one, asBool_nil, popIfBool, finalCheck_cons, MaxScriptElementSize, Nat.not_lt_of_le, *])

theorem tap_run {lt sq : Nat} {sigOK : Bytes → Bytes → Bool} {e : Nat} {tkx : Bytes}
    (htk : tkx.length = 32) (hN : NumOK (scriptNumBytes e) e) (stack : List Bytes) :
    runScript (stdCtx true lt sq sigOK) (taprootInstrs e tkx) stack =
    match stack with
    | [] => .error .invalidStackOperation
    | σt :: rest =>
      if σt = [] then .error .checkSigVerify
      else if schnorrSigLenOK σt = false then .error .taprootSigLen
      else if sigOK tkx σt = false then .error .nullFail
      else if cltvSatisfied lt sq e then tapFinal (scriptNumBytes e) rest else .error .unsatisfiedLockTime := by
  have hNl : (scriptNumBytes e).length ≤ 520 := Nat.le_trans hN.len (by decide)
  have hcl := opCLTV_num hN
  match stack with
  | [] => run_simp
  | σt :: rest =>
    cases σt with
    | nil => run_simp
    | cons t0 ts =>
      cases hl : schnorrSigLenOK (t0 :: ts) with
      | false => run_simp
      | true =>
        cases hvt : sigOK tkx (t0 :: ts) with
        | false => run_simp
        | true => cases hc : cltvSatisfied lt sq e <;> run_simp

theorem any_tooBig_eq_false (l : List Bytes) (h : ∀ x ∈ l, x.length ≤ MaxScriptElementSize) :
    (l.any fun x => decide (x.length > MaxScriptElementSize)) = false := by
  simp only [List.any_eq_false, decide_eq_true_eq]
  intro x hx; have := h x hx; omega

theorem verifyP2WSH_eq_run (c : Ctx) (hc : c.tapscript = false) {script : Bytes} {is : List Instr}
    (hp : parseScript script = some is) (hlen : script.length ≤ MaxScriptSize) {stack : List Bytes}
    (hsz : ∀ x ∈ stack, x.length ≤ MaxScriptElementSize) :
    verifyP2WSH c (Sha256.sha256 script) (stack ++ [script]) = runScript c is stack.reverse := by
  have hany := any_tooBig_eq_false stack.reverse (by simpa using hsz)
  cases c
  simp only at hc
  simp [verifyP2WSH, Nat.not_lt.mpr hlen, hp, hany, hc]

theorem verifyTaprootCore_eq_run (c : Ctx) (hc : c.tapscript = true) {env : TapEnv} {program script rest : Bytes}
    {v : UInt8} {is : List Instr} (hp : parseScript script = some is) {stack : List Bytes}
    (hsz : ∀ x ∈ stack, x.length ≤ MaxScriptElementSize) (hl : (v :: rest).length = 33)
    (hv : v.toNat / 2 * 2 = 0xc0) (hcommit : env.commitOK (v :: rest) program script = true) :
    verifyTaprootCore c env program (stack ++ [script, v :: rest]) = runScript c is stack.reverse := by
  have hany := any_tooBig_eq_false stack.reverse (by simpa using hsz)
  cases c
  simp only at hc
  simp [verifyTaprootCore, hl, hcommit, hv, hp, hany, hc]

theorem wtypeIsExpiry_eq (wt : WType) :
    wtypeIsExpiry wt = match wt with | .expiryWitness | .expiryTaproot => true | _ => false := by
  cases wt <;> decide

theorem spendLockTime_eq (wt : WType) (isClose : Bool) (best : Nat) :
    spendLockTime wt isClose best =
      match wt with
      | .expiryWitness | .expiryTaproot => if isClose then some best else none
      | .multiSigWitness | .muSig2Taproot => some 0
      | .bad => none := by
  cases wt <;> cases isClose <;> rfl

theorem spendLockTime_expiry (wt : WType) (isClose : Bool) (best : Nat) (h : wtypeIsExpiry wt = true) :
    spendLockTime wt isClose best = if isClose then some best else none := by
  cases wt <;> simp_all [wtypeIsExpiry_eq, spendLockTime_eq]

theorem spendLockTime_coop (wt : WType) (isClose : Bool) (best : Nat) (h : wtypeIsExpiry wt = false)
    (hb : wt ≠ .bad) : spendLockTime wt isClose best = some 0 := by
  cases wt <;> simp_all [wtypeIsExpiry_eq, spendLockTime_eq]

theorem renewWitnessType_eq (v : Nat) :
    renewWitnessType v = if v = 0 then .multiSigWitness else .muSig2Taproot := by
  -- the table's rows: versions 0, 1, 2 and, under key 3, every version above
  match v with
  | 0 | 1 | 2 => rfl
  | v + 3 => rw [renewWitnessType, show min (v + 3) 3 = 3 by omega]; rfl

/-- `determineWitnessType` on its class representatives: version other = 3, state other = 10; 0/1/2 = best height
below / at / above the expiry -/
theorem dwtTable_spec : ∀ vk ∈ [1, 2, 3], ∀ sk ∈ [4, 10], ∀ rel ∈ [0, 1, 2],
    (match Gen.C04.dwtTable.find? (fun r => r.1 == vk && r.2.1 == sk && r.2.2.1 == rel) with
      | some r => wtypeByName r.2.2.2
      | none => .bad) =
    if vk = 3 then (if sk = 4 ∨ rel ≠ 0 then .expiryWitness else .multiSigWitness)
    else (if sk = 4 ∨ rel ≠ 0 then .expiryTaproot else .muSig2Taproot) := by
  decide

section batchRows
variable {c n f v : String} {rest : List (String × String × String)} {d : DiffIn} {orig acc acc' : AcctRec} {b : Bool}

theorem storedAfterBatchWith_cons (hc : diffCondHolds c d orig = some b)
    (hm : applyModifier n (diffArg v d) acc = some acc') :
    storedAfterBatchWith ((c, n, v) :: rest) d orig acc =
      storedAfterBatchWith rest d orig (if b then acc' else acc) := by
  rw [storedAfterBatchWith, hc, hm]
  cases b <;> rfl

theorem verifiedWith_cons (hc : diffCondHolds c d orig = some b) (hf : f = "$acct.Expiry" ∨ f = "$acct.Version") :
    verifiedWith ((c, f, v) :: rest) d orig acc =
      verifiedWith rest d orig (if b then
        (if f = "$acct.Expiry" then { acc with expiry := diffArg v d } else { acc with version := diffArg v d })
        else acc) := by
  rw [verifiedWith, hc]
  rcases hf with rfl | rfl <;> cases b <;> rfl

end batchRows

end Pool.C04
