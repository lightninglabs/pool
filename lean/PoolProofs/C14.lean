import PoolProofs.C14Lemmas

/-! C14: sidecar ticket signatures bind the negotiated terms.

* SHA-256 is an arbitrary function `H`.  "Changing a term makes verification fail" is proved as: two tickets
  that verify under the same signature have equal covered terms **or** exhibit an `H`-collision
  (`Collision H p p'` on the two hashed preimages).  Under collision resistance of SHA-256 this is the
  English claim.
* Signatures are ideal: `verify pk m σ ⇔ σ = ⟨pk, m⟩` (`verify_iff`).  Unforgeability of ECDSA is lnd/btcd's.
* The hashed preimages are built from the argument lists regenerated from `sidecar/interfaces.go`
  (`Gen.C14.ticketOfferDigest`, `Gen.C14.ticketOrderDigest`); the `decide` obligations over those tables
  (`C14_offer_terms_bound`, `C14_order_terms_bound`, `C14_digest_functions_as_modelled`, and the lemmas
  `offerTable_eq` / `orderTable_eq` every semantic theorem rests on) fail when the source changes. -/
namespace Pool.C14
open Pool.Digest

def Collision (H : Bytes → Bytes) (p p' : Bytes) : Prop := p ≠ p' ∧ H p = H p'

def flagExprs : List String := ["t.Offer.UnannouncedChannel", "t.Offer.ZeroConfChannel"]

/-- expressions an offer digest of a `case` with these version values has to hash -/
def offerRequired (versions : List Nat) : List String :=
  ["t.ID[:]", "uint8(t.Version)", "t.Offer.Capacity", "t.Offer.PushAmt", "t.Offer.Auto"] ++
    (if versions.all (· ≥ 1) then flagExprs else [])

def orderRequired (versions : List Nat) : List String :=
  ["t.ID[:]", "uint8(t.Version)", "t.Offer.Capacity", "t.Offer.PushAmt", "t.Order.BidNonce[:]"] ++
    (if versions.all (· ≥ 1) then flagExprs else [])

def boundBy (required : List Nat → List String) (f : Gen.DigestFn) : Prop :=
  (∀ c ∈ f.cases, required c.versions ⊆ c.args.map (·.expr)) ∧
  [Gen.C14.sidecarVersionDefault, Gen.C14.sidecarVersionUnannouncedZeroConf] ⊆ f.cases.flatMap (·.versions)

instance (required : List Nat → List String) (f : Gen.DigestFn) : Decidable (boundBy required f) := by
  unfold boundBy; exact inferInstance

/-- Every version case of `Ticket.OfferDigest` hashes ID, version, capacity, push amount and the automation
flag, and from version 1 on the unannounced and zero-conf flags; both known versions have a case. -/
theorem C14_offer_terms_bound : boundBy offerRequired Gen.C14.ticketOfferDigest := by decide +kernel

/-- Every version case of `Ticket.OrderDigest` hashes ID, version, capacity, push amount and the BID NONCE,
and from version 1 on the two flags.  (Fails to build against the unrepaired source, whose v1 case hashes
`t.Offer.Auto` instead of the nonce.) -/
theorem C14_order_terms_bound : boundBy orderRequired Gen.C14.ticketOrderDigest := by decide +kernel

/-- the v1 argument list of `OrderDigest` before the repair (/repo 84b1b76) -/
def unrepairedV1OrderArgs : List String :=
  ["t.ID[:]", "uint8(t.Version)", "t.Offer.Capacity", "t.Offer.PushAmt", "t.Offer.Auto",
   "t.Offer.UnannouncedChannel", "t.Offer.ZeroConfChannel"]

def unrepairedOrderTable : Table :=
  [([0], [.id, .version, .capacity, .pushAmt, .bidNonce]),
   ([1], [.id, .version, .capacity, .pushAmt, .auto, .unannounced, .zeroConf])]

def witnessTicket (nonceByte : UInt8) : Ticket :=
  { id := [1, 2, 3, 4, 5, 6, 7, 8], version := 1, state := 3, capacity := 500000, pushAmt := 1000,
    leaseDuration := 2016, signPubKey := some 1, sigOffer := none, auto := true, unannounced := true,
    zeroConf := false, recipient := none,
    order := some { bidNonce := List.replicate 31 0 ++ [nonceByte], sig := none } }

/-- **The unrepaired v1 order list violates the property**: it does not contain the bid nonce, two tickets
that differ only in the bid nonce get the same order preimage, and that preimage is the OFFER preimage of
the same ticket (so the offer signature verifies as an order signature).  The witness is replayed on the
Go code by `corpus/C14/defect-v1-order-digest.json`. -/
theorem C14_unrepaired_v1_order_list_violates :
    ¬ orderRequired [1] ⊆ unrepairedV1OrderArgs ∧
    unrepairedV1OrderArgs.mapM parseExpr = (lookupCase unrepairedOrderTable 1) ∧
    orderTerms (witnessTicket 1) ≠ orderTerms (witnessTicket 2) ∧
    (preimageOf (some unrepairedOrderTable) (witnessTicket 1)).toOption =
      (preimageOf (some unrepairedOrderTable) (witnessTicket 2)).toOption ∧
    (preimageOf (some unrepairedOrderTable) (witnessTicket 1)).toOption =
      (offerPreimage (witnessTicket 1)).toOption ∧
    (offerPreimage (witnessTicket 1)).toOption.isSome := by decide +kernel

def dummyTicket : Ticket :=
  { id := [], version := 0, state := 0, capacity := 0, pushAmt := 0, leaseDuration := 0, signPubKey := none,
    sigOffer := none, auto := false, unannounced := false, zeroConf := false, recipient := none,
    order := some { bidNonce := [], sig := none } }

/-- the model's encoder of an argument has the width of the `codec.WriteElement` case selected by the
argument's static Go type; byte-slice arguments are full slices of arrays of the length `WF` assumes -/
def argOK (a : Gen.DigestArg) : Bool :=
  match parseExpr a.expr with
  | none => false
  | some tm =>
    (encTerm dummyTicket tm).map FV.widthClass == writerWidth Gen.Codec.codecCases a.goType &&
    (tm != .id || a.goType == "[8]byte[:]") && (tm != .bidNonce || a.goType == "[32]byte[:]")

def fnOK (f : Gen.DigestFn) (guards : List String) : Bool :=
  f.head == guards && f.tag == "t.Version" &&
  f.cases.all (fun c => c.pre == [] && c.args.all argOK) &&
  f.dflt == ["error"] && f.tail == ["sha256"]

/-- What `offerPreimage` / `orderPreimage` assume of `OfferDigest` / `OrderDigest` beyond the argument lists
(facts from the extractor's symbolic evaluation, independent of how the element lists are assembled): the only
guard before anything is written is, for the order digest, `t.State < StateOrdered || t.Order == nil`; the
element list is selected by `t.Version` and no other statement influences a case; every element is written as
`argOK` says; an unknown version is an error; the result is SHA-256 of the written buffer. -/
theorem C14_digest_functions_as_modelled :
    fnOK Gen.C14.ticketOfferDigest [] = true ∧
    fnOK Gen.C14.ticketOrderDigest ["t.State < StateOrdered || t.Order == nil"] = true := by
  decide +kernel

theorem C14_offer_preimage_injective (t t' : Ticket) (h : WF t) (h' : WF t') (p : Bytes)
    (hp : offerPreimage t = .ok p) (hp' : offerPreimage t' = .ok p) : offerTerms t = offerTerms t' := by
  rw [offerPreimage_eq] at hp hp'
  obtain ⟨hv, hall⟩ := preimageOf_inj h h' hp hp'
  have e := fields_eq_of_agree h h' hv hall
  simp only [offerTerms, hv, e.id, e.capacity, e.pushAmt, e.flags, e.auto rfl]

theorem C14_order_preimage_injective (t t' : Ticket) (h : WF t) (h' : WF t') (p : Bytes)
    (hp : orderPreimage t = .ok p) (hp' : orderPreimage t' = .ok p) : orderTerms t = orderTerms t' := by
  obtain ⟨hv, hall⟩ := preimageOf_inj h h' (orderPreimage_ok hp).2.2 (orderPreimage_ok hp').2.2
  have e := fields_eq_of_agree h h' hv hall
  simp only [orderTerms, hv, e.id, e.capacity, e.pushAmt, e.flags, e.bidNonce rfl]

/-- "Verifies only for the … it was made for" (offer part): if one signature verifies for `t` and for `t'`, the
two tickets name the same signing key and have the same offer terms — or SHA-256 collides on their preimages. -/
theorem C14_offer_signature_binds (H : Bytes → Bytes) (t t' : Ticket) (h : WF t) (h' : WF t')
    (hv : verifyOffer H (some t) = .ok ()) (hv' : verifyOffer H (some t') = .ok ())
    (hs : t'.sigOffer = t.sigOffer) :
    t'.signPubKey = t.signPubKey ∧
    (offerTerms t' = offerTerms t ∨
      ∃ p p', offerPreimage t = .ok p ∧ offerPreimage t' = .ok p' ∧ Collision H p p') := by
  obtain ⟨_, pk, p, hk, hp, hg⟩ := (verifyOffer_ok_iff H t).1 hv
  obtain ⟨_, pk', p', hk', hp', hg'⟩ := (verifyOffer_ok_iff H t').1 hv'
  rw [hs, hg] at hg'
  obtain ⟨rfl, hpp⟩ := same_sig (Option.some.inj hg')
  refine ⟨hk'.trans hk.symm, hpp.imp ?_ fun c => ⟨p, p', hp, hp', c⟩⟩
  rintro rfl
  exact C14_offer_preimage_injective t' t h' h p hp' hp

/-- "Changing any of these in a signed ticket, or presenting another signing key, makes verification
fail" (offer part), under collision resistance. -/
theorem C14_offer_change_fails (H : Bytes → Bytes) (t t' : Ticket) (h : WF t) (h' : WF t')
    (hv : verifyOffer H (some t) = .ok ()) (hs : t'.sigOffer = t.sigOffer)
    (hch : offerTerms t' ≠ offerTerms t ∨ t'.signPubKey ≠ t.signPubKey)
    (hnc : ∀ p p', offerPreimage t = .ok p → offerPreimage t' = .ok p' → ¬ Collision H p p') :
    verifyOffer H (some t') ≠ .ok () := by
  intro hv'
  obtain ⟨hk, e | ⟨p, p', hp, hp', hc⟩⟩ := C14_offer_signature_binds H t t' h h' hv hv' hs
  · exact hch.elim (· e) (· hk)
  · exact hnc p p' hp hp' hc

/-- Same for the order signature: key, ID, version, capacity, push amount, bid nonce (+ flags from v1). -/
theorem C14_order_signature_binds (H : Bytes → Bytes) (t t' : Ticket) (h : WF t) (h' : WF t')
    (hv : verifyOrder H (some t) = .ok ()) (hv' : verifyOrder H (some t') = .ok ())
    (hs : t'.order.bind (·.sig) = t.order.bind (·.sig)) :
    t'.signPubKey = t.signPubKey ∧
    (orderTerms t' = orderTerms t ∨
      ∃ p p', orderPreimage t = .ok p ∧ orderPreimage t' = .ok p' ∧ Collision H p p') := by
  obtain ⟨_, _, pk, o, p, hk, ho, _, hp, hg⟩ := (verifyOrder_ok_iff H t).1 hv
  obtain ⟨_, _, pk', o', p', hk', ho', _, hp', hg'⟩ := (verifyOrder_ok_iff H t').1 hv'
  simp only [ho, ho', Option.bind_some, hg, hg'] at hs
  obtain ⟨rfl, hpp⟩ := same_sig (Option.some.inj hs.symm)
  refine ⟨hk'.trans hk.symm, hpp.imp ?_ fun c => ⟨p, p', hp, hp', c⟩⟩
  rintro rfl
  exact C14_order_preimage_injective t' t h' h p hp' hp

theorem C14_order_change_fails (H : Bytes → Bytes) (t t' : Ticket) (h : WF t) (h' : WF t')
    (hv : verifyOrder H (some t) = .ok ()) (hs : t'.order.bind (·.sig) = t.order.bind (·.sig))
    (hch : orderTerms t' ≠ orderTerms t ∨ t'.signPubKey ≠ t.signPubKey)
    (hnc : ∀ p p', orderPreimage t = .ok p → orderPreimage t' = .ok p' → ¬ Collision H p p') :
    verifyOrder H (some t') ≠ .ok () := by
  intro hv'
  obtain ⟨hk, e | ⟨p, p', hp, hp', hc⟩⟩ := C14_order_signature_binds H t t' h h' hv hv' hs
  · exact hch.elim (· e) (· hk)
  · exact hnc p p' hp hp' hc

/-- An offer signature is never accepted as an order signature (of the same or any other ticket) except
through a SHA-256 collision: offer and order preimages have different lengths in every version. -/
theorem C14_offer_sig_is_no_order_sig (H : Bytes → Bytes) (t t' : Ticket) (h : WF t) (h' : WF t')
    (hv : verifyOffer H (some t) = .ok ()) (hv' : verifyOrder H (some t') = .ok ())
    (hs : t'.order.bind (·.sig) = t.sigOffer) :
    ∃ p p', offerPreimage t = .ok p ∧ orderPreimage t' = .ok p' ∧ Collision H p p' := by
  obtain ⟨_, pk, p, _, hp, hg⟩ := (verifyOffer_ok_iff H t).1 hv
  obtain ⟨_, _, pk', o', p', _, ho', _, hp', hg'⟩ := (verifyOrder_ok_iff H t').1 hv'
  simp only [ho', Option.bind_some, hg, hg'] at hs
  injection hs with hs; injection hs with e1 e2
  exact ⟨p, p', hp, hp', offer_ne_order_preimage h h' hp hp', e2.symm⟩

/-- What the signatures do NOT bind (also not claimed by the property): the offered lease duration, the ticket
state, the recipient and the offer signature are not part of either hashed preimage (nor is the order
signature: `orderPreimage_sig`). -/
theorem C14_fields_not_signed (t : Ticket) (lease state : Nat) (r : Option Recipient) (σ : Option Sig) :
    offerPreimage { t with leaseDuration := lease, state := state, recipient := r, sigOffer := σ } =
      offerPreimage t ∧
    (¬ state < stateOrdered → ¬ t.state < stateOrdered →
      orderPreimage { t with leaseDuration := lease, state := state, recipient := r, sigOffer := σ } =
        orderPreimage t) := by
  have key (order : Bool) :
      preimageOf (some (digestLit order))
        { t with leaseDuration := lease, state := state, recipient := r, sigOffer := σ } =
      preimageOf (some (digestLit order)) t :=
    preimageOf_congr (digestLit_exact order) rfl fun x hx => by cases x <;> first | rfl | cases hx
  constructor
  · rw [offerPreimage_eq, offerPreimage_eq, key]
  · intro h1 h2
    rw [orderPreimage_eq, orderPreimage_eq, key]
    simp [h1, h2]

/-- A ticket whose offer was signed (real `SignOffer` control flow) by the key named in the offer verifies. -/
theorem C14_honest_offer_verifies (H : Bytes → Bytes) (t t' : Ticket) (k : Key)
    (hs : signOffer H (some t) k = .ok t') (hk : t.signPubKey = some k) :
    verifyOffer H (some t') = .ok () := by
  obtain ⟨h1, _, _, p, hp, rfl⟩ := signOffer_ok hs
  -- `{ t with sigOffer := σ }` is the update of `C14_fields_not_signed` with the other three fields as they are
  exact (verifyOffer_ok_iff H _).2 ⟨h1, k, p, hk,
    (C14_fields_not_signed t t.leaseDuration t.state t.recipient _).1.trans hp, rfl⟩

/-- A ticket whose order part was signed (real `SignOrder` control flow) with a non-zero bid nonce by the
key named in the offer verifies. -/
theorem C14_honest_order_verifies (H : Bytes → Bytes) (t t' : Ticket) (nonce : Bytes) (k : Key)
    (hs : signOrder H (some t) nonce k = (some t', none)) (hk : t.signPubKey = some k)
    (hn : nonce ≠ zeroNonce) : verifyOrder H (some t') = .ok () := by
  obtain ⟨_, _, hg, p, hp, rfl⟩ := signOrder_ok hs
  refine (verifyOrder_ok_iff H _).2 ⟨by simp [stateOrdered], hg, k, _, p, hk, rfl,
    by simp [withNonce_nonce, hn],
    (orderPreimage_sig { t with state := stateOrdered } (withNonce t.order nonce) _).trans hp, rfl⟩

/-- `validateAndSignTicketForOrder` returns nil only if: the ticket is in the registered state with a
recipient carrying node and funding (multisig) keys; the offer signature verifies and was made under the
provider's own account key; the market is inbound; the offered capacity is a positive multiple of the base
unit, covers the push amount, equals the bid amount and equals (int64 arithmetic) min-units × base unit;
and the result is exactly `SignOrder` applied to the ticket with the bid's nonce. -/
theorem C14_provider_signs_only_if (H : Bytes → Bytes) (t t' : Ticket) (bid : BidTerms) (acctKey k : Key)
    (hok : validateAndSign H t bid acctKey k = (t', none)) :
    t.state = stateRegistered ∧
    (∃ r nk mk, t.recipient = some r ∧ r.nodeKey = some nk ∧ r.multiSigKey = some mk) ∧
    verifyOffer H (some t) = .ok () ∧ t.signPubKey = some acctKey ∧
    bid.auctionType = inbound ∧
    t.capacity ≠ 0 ∧ t.capacity % baseUnit = 0 ∧ t.pushAmt ≤ t.capacity ∧
    t.capacity = bid.amt ∧ t.capacity = wrapI64 ((bid.minUnitsMatch : Int) * baseUnit) ∧
    signOrder H (some t) bid.nonce k = (some t', none) ∧
    checkOfferMatchesBid t bid = none := by
  have v := validateAndSign_ok hok
  obtain ⟨a1, a2, a3, a4, a5, a6⟩ := checkOfferParamsForOrder_none v.params
  exact ⟨v.state, v.recipient, v.offer, v.ownKey, a1, a2, a3, a4, a5, a6, v.signed, v.matchesBid⟩

/-- In particular the offer in the ticket is signed by the provider's OWN account key: the stored offer
signature is exactly the (ideal) signature of `acctKey` on the offer digest of the ticket as given. -/
theorem C14_provider_offer_signed_by_own_key (H : Bytes → Bytes) (t t' : Ticket) (bid : BidTerms)
    (acctKey k : Key) (hok : validateAndSign H t bid acctKey k = (t', none)) :
    ∃ p, offerPreimage t = .ok p ∧ t.sigOffer = some ⟨acctKey, H p⟩ := by
  have v := validateAndSign_ok hok
  obtain ⟨_, pk, p, hpk, hp, hs⟩ := (verifyOffer_ok_iff H t).1 v.offer
  rw [v.ownKey] at hpk
  injection hpk with hpk
  subst hpk
  exact ⟨p, hp, hs⟩

/-- …and only if the bid repeats the channel parameters of the offer (`CheckOfferMatchesBid`): lease duration
(unless the offer leaves it open with 0), push amount = self channel balance, unannounced and zero-conf
flags. -/
theorem C14_provider_bid_matches_offer (H : Bytes → Bytes) (t t' : Ticket) (bid : BidTerms) (acctKey k : Key)
    (hok : validateAndSign H t bid acctKey k = (t', none)) :
    (t.leaseDuration = 0 ∨ t.leaseDuration = bid.leaseDuration) ∧ t.pushAmt = bid.selfChanBalance ∧
    t.unannounced = bid.unannounced ∧ t.zeroConf = bid.zeroConf :=
  checkOfferMatchesBid_none (validateAndSign_ok hok).matchesBid

/-- Inside the int64 range the wrap-around is the identity: the offered capacity is exactly the bid's
minimum match (in units) times the base supply unit. -/
theorem C14_provider_min_match_exact (H : Bytes → Bytes) (t t' : Ticket) (bid : BidTerms) (acctKey k : Key)
    (hok : validateAndSign H t bid acctKey k = (t', none))
    (hdom : (bid.minUnitsMatch : Int) * baseUnit < 9223372036854775808) :
    t.capacity = (bid.minUnitsMatch : Int) * baseUnit := by
  obtain ⟨-, -, -, -, -, h⟩ := checkOfferParamsForOrder_none (validateAndSign_ok hok).params
  rw [h]
  unfold wrapI64
  have : (0 : Int) ≤ (bid.minUnitsMatch : Int) * baseUnit := by
    apply Int.mul_nonneg (Int.natCast_nonneg _); decide
  omega

theorem C14_validate_ordered_only_if (H : Bytes → Bytes) (t : Ticket) (known : Bool)
    (hok : validateOrderedTicket H t known = none) :
    t.state = stateOrdered ∧ verifyOffer H (some t) = .ok () ∧ verifyOrder H (some t) = .ok () ∧
    known = true := by
  unfold validateOrderedTicket at hok
  obtain ⟨h1, hok⟩ := of_ite_eq (by simp) hok
  cases hv : verifyOffer H (some t) with
  | error e => simp [hv] at hok
  | ok u =>
    cases hv2 : verifyOrder H (some t) with
    | error e => simp [hv, hv2] at hok
    | ok u2 =>
      cases known
      · simp [hv, hv2] at hok
      · exact ⟨by simpa using h1, rfl, rfl, rfl⟩

theorem C14_register_only_if (H : Bytes → Bytes) (t t' : Ticket) (known : Bool) (nk mk : Key) (idx : Nat)
    (hok : registerSidecar H t known nk mk idx = .ok t') :
    verifyOffer H (some t) = .ok () ∧ known = false ∧
    t' = { t with state := stateRegistered,
                  recipient := some { nodeKey := some nk, multiSigKey := some mk, idx := idx } } := by
  unfold registerSidecar at hok
  cases hv : verifyOffer H (some t) with
  | error e => simp [hv] at hok
  | ok u =>
    cases known
    · simp [hv] at hok; exact ⟨rfl, rfl, hok.symm⟩
    · simp [hv] at hok

/-! non-vacuity: concrete tickets meeting the hypotheses (identity "hash") -/

def exOffered : Ticket :=
  { id := [1, 2, 3, 4, 5, 6, 7, 8], version := 1, state := 2, capacity := 500000, pushAmt := 1000,
    leaseDuration := 2016, signPubKey := some 7, sigOffer := none, auto := true, unannounced := true,
    zeroConf := false, recipient := some { nodeKey := some 3, multiSigKey := some 4, idx := 9 },
    order := none }

def exNonce : Bytes := List.replicate 31 0 ++ [5]
def exBid : BidTerms :=
  { auctionType := 0, amt := 500000, minUnitsMatch := 5, nonce := exNonce, leaseDuration := 2016,
    selfChanBalance := 1000, unannounced := true, zeroConf := false }

def exSigned : Ticket := match signOffer id (some exOffered) 7 with
  | .ok t => t
  | .error _ => exOffered

def exOrdered : Ticket := (validateAndSign id exSigned exBid 7 7).1

example : signOffer id (some exOffered) 7 = .ok exSigned := by decide +kernel
example : verifyOffer id (some exSigned) = .ok () := by decide +kernel
example : validateAndSign id exSigned exBid 7 7 = (exOrdered, none) := by decide +kernel
example : verifyOrder id (some exOrdered) = .ok () := by decide +kernel
example : validateOrderedTicket id { exOrdered with state := 3 } true = none := by decide +kernel
example : (registerSidecar id { exSigned with recipient := none, state := 1 } false 3 4 9).toOption.isSome := by decide +kernel
/-- a changed term (capacity) with the same signature is rejected -/
example : verifyOffer id (some { exSigned with capacity := 600000 }) = .error .badSig := by decide +kernel
example : verifyOrder id (some { exOrdered with
    order := exOrdered.order.map fun o => { o with bidNonce := List.replicate 31 0 ++ [6] } }) =
    .error .badSig := by decide +kernel
/-- another key is rejected -/
example : verifyOffer id (some { exSigned with signPubKey := some 8 }) = .error .badSig := by decide +kernel

end Pool.C14
