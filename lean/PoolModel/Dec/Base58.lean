import PoolModel.Dec.Basic
/-! btcutil/base58 (v1.1.5) `Encode` / `Decode`: the big-number definition (the 10-digit chunking of
the Go code is an optimisation of exactly this), the leading-zero rule, and "any character outside
the alphabet ⇒ empty result".  Strings are their bytes (Go ranges over runes, but every non-ASCII rune
is either > 255 or maps to 255 in the `b58` table, so the result is empty as for any other foreign
byte). -/
namespace Pool.Dec

def b58Alphabet : Bytes :=
  "123456789ABCDEFGHJKLMNPQRSTUVWXYZabcdefghijkmnopqrstuvwxyz".toList.map (fun c => UInt8.ofNat c.toNat)

/-- position of a character in the alphabet (the `b58` table; `none` = 255) -/
def b58Index (c : UInt8) : Option Nat :=
  let i := b58Alphabet.idxOf c
  if i < 58 then some i else none

def b58Char (d : Nat) : UInt8 := b58Alphabet.getD d 0

/-- `big.Int.Bytes()`: minimal big-endian bytes, empty for 0 (fuel = upper bound on the digit count) -/
def natBytesF : Nat → Nat → Bytes
  | 0, _ => []
  | fuel + 1, n => if n = 0 then [] else natBytesF fuel (n / 256) ++ [UInt8.ofNat (n % 256)]

def natBytes (n : Nat) : Bytes := natBytesF n n

def natDigits58F : Nat → Nat → Bytes
  | 0, _ => []
  | fuel + 1, n => if n = 0 then [] else natDigits58F fuel (n / 58) ++ [b58Char (n % 58)]

/-- base-58 digits of `n`, most significant first, none for 0 -/
def natDigits58 (n : Nat) : Bytes := natDigits58F n n

def leadingCount (c : UInt8) : Bytes → Nat
  | [] => 0
  | x :: xs => if x = c then leadingCount c xs + 1 else 0

/-- base58.Encode -/
def b58Encode (b : Bytes) : Bytes :=
  List.replicate (leadingCount 0 b) (b58Char 0) ++ natDigits58 (beNat b)

/-- all characters mapped through the table, `none` as soon as one is foreign -/
def b58Digits : Bytes → Option (List Nat)
  | [] => some []
  | c :: cs =>
    match b58Index c, b58Digits cs with
    | some d, some ds => some (d :: ds)
    | _, _ => none

/-- value of a digit list (most significant digit first) in radix 58 -/
def digitsValue (ds : List Nat) : Nat := ds.foldl (fun a d => a * 58 + d) 0

/-! #### compiled fast paths (proved equal, installed with `@[csimp]`)

`digitsValue` multiplies a growing big number once per digit and `natBytes` appends at the end; the
compiled driver uses the 10-digit chunking of the Go code and an accumulator instead. -/

/-- up to `k` digits folded into a machine-size total and the matching power of 58 -/
def takeChunk : Nat → List Nat → Nat → Nat → Nat × Nat × List Nat
  | 0, ds, t, p => (t, p, ds)
  | _ + 1, [], t, p => (t, p, [])
  | k + 1, d :: ds, t, p => takeChunk k ds (t * 58 + d) (p * 58)

def digitsValueFastAux : Nat → List Nat → Nat → Nat
  | 0, _, acc => acc
  | _ + 1, [], acc => acc
  | f + 1, d :: ds, acc =>
    let r := takeChunk 9 ds d 58
    digitsValueFastAux f r.2.2 (acc * r.2.1 + r.1)

def digitsValueFast (ds : List Nat) : Nat := digitsValueFastAux ds.length ds 0

theorem takeChunk_spec (k : Nat) (ds : List Nat) (t p acc : Nat) :
    ds.foldl (fun a d => a * 58 + d) (acc * p + t)
      = (takeChunk k ds t p).2.2.foldl (fun a d => a * 58 + d)
          (acc * (takeChunk k ds t p).2.1 + (takeChunk k ds t p).1) := by
  fun_induction takeChunk k ds t p with
  | case3 k d ds t p ih =>
    rw [List.foldl_cons, ← ih]
    congr 1
    rw [Nat.add_mul, Nat.mul_assoc]
    omega
  | _ => rfl

theorem takeChunk_length (k : Nat) (ds : List Nat) (t p : Nat) : (takeChunk k ds t p).2.2.length ≤ ds.length := by
  fun_induction takeChunk k ds t p with
  | case3 k d ds t p ih => exact Nat.le_succ_of_le ih
  | _ => exact Nat.le_refl _

theorem digitsValueFastAux_spec (f : Nat) (ds : List Nat) (acc : Nat) (h : ds.length ≤ f) :
    digitsValueFastAux f ds acc = ds.foldl (fun a d => a * 58 + d) acc := by
  fun_induction digitsValueFastAux f ds acc with
  | case1 ds acc => rw [List.eq_nil_of_length_eq_zero (Nat.le_zero.1 h)]; rfl
  | case2 => rfl
  | case3 f d ds acc r ih =>
    rw [ih (by have : r.2.2.length ≤ _ := takeChunk_length 9 ds d 58; simp only [List.length_cons] at h; omega),
      List.foldl_cons]
    exact (takeChunk_spec 9 ds d 58 acc).symm

@[csimp] theorem digitsValue_eq_fast : @digitsValue = @digitsValueFast := by
  funext ds
  unfold digitsValue digitsValueFast
  rw [digitsValueFastAux_spec _ _ _ (Nat.le_refl _)]

def natBytesAcc : Nat → Nat → Bytes → Bytes
  | 0, _, acc => acc
  | fuel + 1, n, acc => if n = 0 then acc else natBytesAcc fuel (n / 256) (UInt8.ofNat (n % 256) :: acc)

theorem natBytesAcc_spec (fuel n : Nat) (acc : Bytes) : natBytesAcc fuel n acc = natBytesF fuel n ++ acc := by
  fun_induction natBytesAcc fuel n acc with
  | case1 => rfl
  | case2 => simp [natBytesF]
  | case3 fuel n acc h ih => simp [natBytesF, h, ih]

theorem natBytesF_fuel (f g n : Nat) (hf : n < 256 ^ f) (hg : n < 256 ^ g) : natBytesF f n = natBytesF g n := by
  fun_induction natBytesF f n generalizing g with
  | case1 n =>
    have : n = 0 := by simp at hf; omega
    subst this
    cases g <;> simp [natBytesF]
  | case2 => cases g <;> simp [natBytesF]
  | case3 f n h0 ih =>
    cases g with
    | zero => simp at hg; omega
    | succ g =>
      rw [natBytesF, if_neg h0, ih g (Nat.div_lt_of_lt_mul (by rw [Nat.pow_succ] at hf; omega))
        (Nat.div_lt_of_lt_mul (by rw [Nat.pow_succ] at hg; omega))]

/-- fuel = bit length instead of the number itself (a 2000-bit fuel costs a big-number decrement per step) -/
def natBytesFast (n : Nat) : Bytes := natBytesAcc (n.log2 + 1) n []

@[csimp] theorem natBytes_eq_fast : @natBytes = @natBytesFast := by
  funext n
  unfold natBytes natBytesFast
  rw [natBytesAcc_spec, List.append_nil]
  apply natBytesF_fuel
  · exact Nat.lt_pow_self (by omega)
  · have h1 : n < 2 ^ (n.log2 + 1) := Nat.lt_log2_self
    have h2 : 2 ^ (n.log2 + 1) ≤ 256 ^ (n.log2 + 1) := Nat.pow_le_pow_left (by omega) _
    omega

/-- base58.Decode; the final `make([]byte, flen)` is an allocation request. -/
def b58Decode (maxAlloc : Nat) (s : Bytes) : Outcome Bytes :=
  match b58Digits s with
  | none => .ok []
  | some ds =>
    let v := digitsValue ds
    let tmp := natBytes v
    let nz := leadingCount (b58Char 0) s
    match alloc maxAlloc (nz + tmp.length) with
    | .ok () => .ok (List.replicate nz 0 ++ tmp)
    | .err e => .err e
    | .panic => .panic

end Pool.Dec
