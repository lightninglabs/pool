/-! Shared definitions of the decoding models (C15, C19): outcomes with an explicit `panic`, byte/number
conversions, Go slice expressions and allocation requests.  Core Lean only. -/
namespace Pool.Dec

/-- Error classes the Go errors are mapped to (the harness maps with `errors.Is/As`, never by text). -/
inductive Err where
  | eof        -- io.ErrUnexpectedEOF (io.EOF is converted by tlv.Stream.decode)
  | varint     -- tlv.ErrVarIntNotCanonical
  | stream     -- tlv.ErrStreamNotCanonical
  | badlen     -- tlv.ErrTypeForDecoding / ErrTypeForEncoding (static record with a wrong length)
  | toolarge   -- tlv.ErrRecordTooLarge
  | pubkey     -- secp256k1.Error from btcec.ParsePubKey
  | sig        -- ecdsa.Error from ParseDERSignature
  | pfx        -- codec.go: "string contains invalid prefix" / "not a sidecar ticket, invalid prefix"
  | length     -- codec.go: "not a sidecar ticket, invalid length"
  | checksum   -- codec.go: "invalid sidecar ticket, checksum mismatch"
  | other
  deriving DecidableEq, Repr, Inhabited

/-- class name on the line protocol.  Errors that carry no sentinel / type in Go (the `fmt.Errorf`s of
codec.go, btcec's signature parser) are ONE class: the harness never tells errors apart by their text. -/
def Err.name : Err → String
  | .eof => "eof" | .varint => "varint" | .stream => "stream" | .badlen => "badlen"
  | .toolarge => "toolarge" | .pubkey => "pubkey" | .sig => "untyped" | .pfx => "untyped"
  | .length => "untyped" | .checksum => "untyped" | .other => "untyped"

/-- Result of running a piece of Go code: a value, a returned `error`, or a run-time panic
(nil dereference, slice bounds, `makeslice: len out of range`, loop without progress). -/
inductive Outcome (α : Type) where
  | ok (a : α)
  | err (e : Err)
  | panic
  deriving Repr

namespace Outcome
@[inline] def bind {α β : Type} (x : Outcome α) (f : α → Outcome β) : Outcome β :=
  match x with
  | .ok a => f a
  | .err e => .err e
  | .panic => .panic

instance : Monad Outcome where
  pure := .ok
  bind := Outcome.bind

def isPanic {α : Type} : Outcome α → Bool
  | .panic => true
  | _ => false

def cls {α : Type} : Outcome α → String
  | .ok _ => "ok" | .err _ => "err" | .panic => "panic"

@[simp] theorem bind_ok {α β : Type} (a : α) (f : α → Outcome β) : (Outcome.ok a >>= f) = f a := rfl
@[simp] theorem bind_err {α β : Type} (e : Err) (f : α → Outcome β) : (Outcome.err e >>= f) = .err e := rfl
@[simp] theorem bind_panic {α β : Type} (f : α → Outcome β) : (Outcome.panic >>= f) = .panic := rfl
@[simp] theorem pure_eq {α : Type} (a : α) : (pure a : Outcome α) = .ok a := rfl

theorem bind_eq_ok {α β : Type} {x : Outcome α} {f : α → Outcome β} {b : β} :
    (x >>= f) = .ok b ↔ ∃ a, x = .ok a ∧ f a = .ok b := by
  cases x <;> simp

theorem bind_ne_panic {α β : Type} {x : Outcome α} {f : α → Outcome β} (hx : x ≠ .panic)
    (hf : ∀ a, f a ≠ .panic) : (x >>= f) ≠ .panic := by
  cases x with
  | ok a => exact hf a
  | err e => simp
  | panic => exact absurd rfl hx
end Outcome

abbrev Bytes := List UInt8

/-- big-endian bytes → number (`binary.BigEndian.UintN`, `big.Int.SetBytes`) -/
def beNat (bs : Bytes) : Nat := bs.foldl (fun a b => a * 256 + b.toNat) 0

/-- number → exactly `w` big-endian bytes (`binary.BigEndian.PutUintN`; high bits dropped) -/
def toBE : Nat → Nat → Bytes
  | 0, _ => []
  | w + 1, n => toBE w (n / 256) ++ [UInt8.ofNat (n % 256)]

/-- `make([]byte, n)` / `make([]byte, 0, n)`: the Go runtime panics (`makeslice: len out of range`) when the
request exceeds what it can ever grant.  `maxAlloc` is a parameter of the model. -/
def alloc (maxAlloc n : Nat) : Outcome Unit := if n > maxAlloc then .panic else .ok ()

theorem alloc_ok {m n : Nat} (h : n ≤ m) : alloc m n = .ok () := by
  unfold alloc; rw [if_neg (by omega)]

theorem alloc_panic {m n : Nat} (h : m < n) : alloc m n = .panic := by
  unfold alloc; rw [if_pos h]

/-- Go slice expression `b[lo:hi]` on a slice whose capacity equals its length: panics unless
`lo ≤ hi ≤ len b`. -/
def slice (b : List α) (lo hi : Nat) : Outcome (List α) :=
  if lo ≤ hi ∧ hi ≤ b.length then .ok ((b.take hi).drop lo) else .panic

theorem slice_ok {α : Type} (b : List α) (lo hi : Nat) (h : lo ≤ hi ∧ hi ≤ b.length) :
    slice b lo hi = .ok ((b.take hi).drop lo) := by
  unfold slice; rw [if_pos h]

end Pool.Dec
