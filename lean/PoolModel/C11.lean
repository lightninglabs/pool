import PoolModel.Float64
import PoolModel.Generated.ReserveFacts
/-! # C11 — reserved value, per-match debit, order admission (executable model, core Lean only)

Mirrors, function by function:
* `/repo/order/supplyunit.go`      `SupplyUnit.ToSatoshis`
* `/repo/terms/fees.go`            `LinearFeeSchedule.ExecutionFee`, `BaseFee`
* `/repo/order/tradingfees.go`     `LumpSumPremium` (→ `Float64.premium`), `executionFee`, `makerDelta`, `takerDelta`,
                                   `EstimateTraderFee` (+ lnd `SatPerKWeight.FeeForWeight`), `AccountTally.ChainFees`
* `/repo/order/interfaces.go`      `State.Archived`, `reservedValue`, `Ask.ReservedValue`, `Bid.ReservedValue`,
                                   `CheckOfferParams`, `Bid.ValidateSelfChanBalance`
* `/repo/order/manager.go`         `manager.validateOrder`
* `/repo/order/batch_verifier.go`  the tally formulas of `validateMatchedOrder` + `Verify` for one order's matches
                                   in one batch (`CalcMakerDelta`/`CalcTakerDelta`, `NumChansCreated++`, `ChainFees`)
* `/repo/marshaler.go`             `MarshallAccountsWithAvailableBalance` (the per-account debit sum)

All amounts are modelled as unbounded integers; Go computes in `int64`/`uint64`.  The two agree inside the
domain `inDomain` below (non-negative inputs in a stated box, premium far below 2^63): there is no wrap-around
there.  Outside the domain nothing is claimed and the driver answers `ood`.
Go panic site: the integer division by `MinUnitsMatch.ToSatoshis()` in `reservedValue` (→ `Outcome.panic`). -/
namespace Pool.C11
open Pool.Gen.Reserve
open Pool.Float64 (premium)

/-- `terms.LinearFeeSchedule` -/
structure FeeSchedule where
  baseFee : Nat
  feeRate : Nat
deriving Repr, DecidableEq

/-- the fields of `order.Kit` / `order.Bid` that enter the reserve and `validateOrder`.
    `selfChanBalance` is `Bid.SelfChanBalance` (0 for an ask). -/
structure Order where
  isBid : Bool
  auctionType : Nat
  version : Nat
  state : Nat
  fixedRate : Nat
  amt : Nat
  units : Nat
  unitsUnfulfilled : Nat
  minUnitsMatch : Nat
  maxBatchFeeRate : Nat
  leaseDuration : Nat
  selfChanBalance : Nat
  acctKey : Nat
deriving Repr, DecidableEq

/-- `State.Archived` (the set is regenerated from the switch in the source) -/
def archived (s : Nat) : Bool := archivedStates.contains s

/-- `SupplyUnit.ToSatoshis` -/
def toSatoshis (u : Nat) : Nat := u * baseSupplyUnit

/-- `order.executionFee` = `schedule.BaseFee() + schedule.ExecutionFee(amount)` -/
def executionFee (fs : FeeSchedule) (amount : Nat) : Nat :=
  fs.baseFee + amount * fs.feeRate / execFeeRateDivisor

/-- `makerDelta`: first component (balance delta) -/
def makerDelta (fs : FeeSchedule) (price makerAmt baseAmt duration : Nat) : Int :=
  -(makerAmt : Int) + (premium baseAmt price duration : Int) - (executionFee fs makerAmt : Int)

/-- `takerDelta`: first component (balance delta) -/
def takerDelta (fs : FeeSchedule) (price baseAmt takerAmt duration : Nat) : Int :=
  -(premium baseAmt price duration : Int) - (takerAmt : Int) - (executionFee fs baseAmt : Int)

/-- witness size chosen by the `switch accountVersion` of `EstimateTraderFee` -/
def traderWitness (ver : Nat) : Nat :=
  if taprootVersions.contains ver then taprootMultiSigWitnessSize else multiSigWitnessSize

/-- weight estimate of `EstimateTraderFee`; `chanOutputSize*numTraderChans+1` is `uint32` arithmetic -/
def traderWeight (numChans ver : Nat) : Nat :=
  (p2wshOutputSize + inputSize + ((p2wshOutputSize * numChans + 1) % 4294967296) / 2) * witnessScaleFactor
    + traderWitness ver

/-- `EstimateTraderFee` (`feeRate.FeeForWeight(w) = feeRate * w / 1000`) -/
def estimateTraderFee (numChans feeRate ver : Nat) : Nat := feeRate * traderWeight numChans ver / 1000

inductive Outcome where
  | panic
  | ok (v : Int)
deriving Repr, DecidableEq

/-- `reservedValue` -/
def reservedValue (o : Order) (perMatchDelta : Nat → Int) (ver : Nat) : Outcome :=
  if archived o.state then .ok 0 else
  let totalSats := toSatoshis o.unitsUnfulfilled
  let minMatchSize := toSatoshis o.minUnitsMatch
  if minMatchSize = 0 then .panic else     -- integer division by zero
  let n0 : Int := ((totalSats / minMatchSize : Nat) : Int)
  let (maxNumMatches, rem) : Int × Int :=
    if n0 * minMatchSize < totalSats then (n0 - 1, (totalSats : Int) - (n0 - 1) * minMatchSize) else (n0, 0)
  let balanceDelta := maxNumMatches * perMatchDelta minMatchSize
  let balanceDelta := if 0 < rem then balanceDelta + perMatchDelta rem.toNat else balanceDelta
  let fee1 : Int := estimateTraderFee 1 o.maxBatchFeeRate ver
  let balanceDelta := balanceDelta - maxNumMatches * fee1
  let balanceDelta := if 0 < rem then balanceDelta - fee1 else balanceDelta
  if balanceDelta < 0 then .ok (-balanceDelta) else .ok 0

/-- the closure passed by `Ask.ReservedValue` -/
def askPerMatch (fs : FeeSchedule) (o : Order) (amt : Nat) : Int :=
  makerDelta fs o.fixedRate amt amt o.leaseDuration

/-- the premium base amount of a bid match of `amt`: `amt (+ SelfChanBalance in the outbound market)` -/
def bidPremiumAmt (o : Order) (amt : Nat) : Nat :=
  if o.auctionType = btcOutboundLiquidity then amt + o.selfChanBalance else amt

/-- the closure passed by `Bid.ReservedValue` -/
def bidPerMatch (fs : FeeSchedule) (o : Order) (amt : Nat) : Int :=
  takerDelta fs o.fixedRate (bidPremiumAmt o amt) o.selfChanBalance o.leaseDuration

/-- `Order.ReservedValue(feeSchedule, accountVersion)` for `*Ask` / `*Bid` -/
def orderReservedValue (fs : FeeSchedule) (o : Order) (ver : Nat) : Outcome :=
  if o.isBid then reservedValue o (bidPerMatch fs o) ver else reservedValue o (askPerMatch fs o) ver

/-! ## what a verified batch debits (tally of `batchVerifier.Verify` for the matches of one order) -/

/-- one match of our order in a batch: filled units, the batch's clearing price for the order's duration, and
    (for an ask in the outbound market) the matched bid's `SelfChanBalance` -/
structure Fill where
  units : Nat
  price : Nat
  otherSelf : Nat := 0
deriving Repr, DecidableEq

/-- `-balanceDelta` of `CalcTakerDelta` as called by `validateMatchedOrder` for our bid -/
def bidMatchDebit (fs : FeeSchedule) (o : Order) (f : Fill) : Int :=
  Int.neg (takerDelta fs f.price (bidPremiumAmt o (toSatoshis f.units)) o.selfChanBalance o.leaseDuration)

/-- `-balanceDelta` of `CalcMakerDelta` as called by `validateMatchedOrder` for our ask -/
def askMatchDebit (fs : FeeSchedule) (o : Order) (f : Fill) : Int :=
  let makerAmt := toSatoshis f.units
  let premiumAmt := if o.auctionType = btcOutboundLiquidity then makerAmt + f.otherSelf else makerAmt
  Int.neg (makerDelta fs f.price makerAmt premiumAmt o.leaseDuration)

def matchDebit (fs : FeeSchedule) (o : Order) (f : Fill) : Int :=
  if o.isBid then bidMatchDebit fs o f else askMatchDebit fs o f

/-- a batch as far as one order is concerned: its chain fee rate, the account version used for the chain fee,
    and the matches of the order -/
structure BatchFills where
  feeRate : Nat
  ver : Nat
  fills : List Fill
deriving Repr

/-- total debit of a batch in which the order is the account's only matched order:
    Σ match debits + `EstimateTraderFee(NumChansCreated, BatchTxFeeRate, acct.Version)` -/
def batchDebit (fs : FeeSchedule) (o : Order) (b : BatchFills) : Int :=
  (b.fills.map (matchDebit fs o)).sum + (estimateTraderFee b.fills.length b.feeRate b.ver : Int)

def fillsUnits (fl : List Fill) : Nat := (fl.map (·.units)).sum
/-- units filled over a sequence of batches -/
def totalUnits (bs : List BatchFills) : Nat := (bs.map (fun b => fillsUnits b.fills)).sum
/-- number of matches (= channels) over a sequence of batches -/
def totalFills (bs : List BatchFills) : Nat := (bs.map (fun b => b.fills.length)).sum
/-- what the verified batches debit from the account for this order over a sequence of batches -/
def totalDebit (fs : FeeSchedule) (o : Order) (bs : List BatchFills) : Int := (bs.map (batchDebit fs o)).sum

/-- the two unit checks that end `batchVerifier.Verify`'s per-order loop, for `unitsFilled` = the units all matches of
    the order in the batch add up to: reject if `unitsFilled > UnitsUnfulfilled`; reject if the market is not the
    outbound one and `unitsFilled < MinUnitsMatch` -/
def verifyUnitsOk (o : Order) (unitsFilled : Nat) : Bool :=
  !(decide (o.unitsUnfulfilled < unitsFilled)) &&
  !(o.auctionType != btcOutboundLiquidity && decide (unitsFilled < o.minUnitsMatch))

/-- single match, one channel, one batch -/
def singleDebit (fs : FeeSchedule) (o : Order) (ver feeRate : Nat) (f : Fill) : Int :=
  matchDebit fs o f + (estimateTraderFee 1 feeRate ver : Int)

/-! ## `manager.validateOrder` -/

structure Account where
  key : Nat
  value : Nat
  version : Nat
deriving Repr, DecidableEq

structure Terms where
  baseFee : Nat
  feeRate : Nat
  buckets : List Nat
deriving Repr

inductive VResult where
  | ok | errDuration | errFeeFloor | errSelfChan | errInsufficient | panic
deriving Repr, DecidableEq

/-- `CheckOfferParams(auctionType, capacity, pushAmt, BaseSupplyUnit)`: true = error -/
def checkOfferParamsErr (auctionType capacity pushAmt : Nat) : Bool :=
  (capacity == 0 || capacity % baseSupplyUnit != 0) ||
  (auctionType == btcInboundLiquidity && decide (capacity < pushAmt)) ||
  (auctionType == btcOutboundLiquidity && (pushAmt == 0 || pushAmt % baseSupplyUnit != 0))

/-- `Bid.ValidateSelfChanBalance`: true = error -/
def validateSelfChanBalanceErr (b : Order) : Bool :=
  decide (b.version < versionSelfChanBalance) ||
  checkOfferParamsErr b.auctionType b.amt b.selfChanBalance ||
  (b.units != b.minUnitsMatch) ||
  (b.auctionType == btcOutboundLiquidity && decide (b.selfChanBalance < baseSupplyUnit))

/-- the running sum `reserved += o.ReservedValue(feeSchedule, acct.Version)` over the stored orders of the
    account; `none` = a panic occurred -/
def sumReserved (fs : FeeSchedule) (acct : Account) : List Order → Option Int
  | [] => some 0
  | o :: rest =>
    if o.acctKey ≠ acct.key then sumReserved fs acct rest else
    match orderReservedValue fs o acct.version with
    | .panic => none
    | .ok v => (sumReserved fs acct rest).map (v + ·)

/-- `manager.validateOrder(order, acct, terms)` with `dbOrders` the content of the order store -/
def validateOrder (dbOrders : List Order) (o : Order) (acct : Account) (t : Terms) : VResult :=
  if !t.buckets.contains o.leaseDuration then .errDuration else
  if o.maxBatchFeeRate < feePerKwFloor then .errFeeFloor else
  if o.isBid && decide (0 < o.selfChanBalance) && validateSelfChanBalanceErr o then .errSelfChan else
  let fs : FeeSchedule := ⟨t.baseFee, t.feeRate⟩
  match orderReservedValue fs o acct.version with
  | .panic => .panic
  | .ok r0 =>
    match sumReserved fs acct dbOrders with
    | none => .panic
    | some rs => if (acct.value : Int) < r0 + rs then .errInsufficient else .ok

/-! ## `MarshallAccountsWithAvailableBalance` -/

/-- `rpcAccount.Value - uint64(accountDebit)` (uint64 arithmetic); `none` = panic in a `ReservedValue` -/
def availableBalance (fs : FeeSchedule) (orders : List Order) (acct : Account) : Option Nat :=
  (sumReserved fs acct orders).map fun debit =>
    ((acct.value : Int) - debit).emod (18446744073709551616 : Int) |>.toNat

/-! ## every value Go holds in an `int64` while computing `ReservedValue`

Closed form of `reservedValue` (`n0 = U / m`, `r = U % m`; the Go condition `maxNumMatches*minMatchSize < totalSats`
is `r ≠ 0`, and then `rem = m + r`) together with the list of all integer intermediates of the computation, in
program order. `PoolProofs.C11Lemmas` proves the closed form equal to `reservedValue`, `PoolProofs.C11Overflow` every
listed value inside the `int64` range whenever `inDomain` holds. -/

/-- intermediates of `executionFee(amount, schedule)`: `amt * feeRate`, `… / 1_000_000`, `base + …` -/
def execFeeParts (fs : FeeSchedule) (amount : Nat) : List Int :=
  [((amount * fs.feeRate : Nat) : Int), ((amount * fs.feeRate / execFeeRateDivisor : Nat) : Int),
   (executionFee fs amount : Int)]

/-- intermediates of the `perMatchDelta` closure for a match of `amt` (bid: `takerDelta`, ask: `makerDelta`) -/
def perMatchParts (fs : FeeSchedule) (o : Order) (amt : Nat) : List Int :=
  if o.isBid then
    let base := bidPremiumAmt o amt
    let p : Int := premium base o.fixedRate o.leaseDuration
    [(base : Int), p, -p, -p - (o.selfChanBalance : Int)] ++ execFeeParts fs base ++ [bidPerMatch fs o amt]
  else
    let p : Int := premium amt o.fixedRate o.leaseDuration
    [(amt : Int), p, -(amt : Int), -(amt : Int) + p] ++ execFeeParts fs amt ++ [askPerMatch fs o amt]

/-- intermediates of `EstimateTraderFee` / `FeeForWeight` -/
def traderFeeParts (k feeRate ver : Nat) : List Int :=
  [(traderWeight k ver : Int), ((feeRate * traderWeight k ver : Nat) : Int), (estimateTraderFee k feeRate ver : Int)]

/-- the closure `perMatchDelta` of `Ask/Bid.ReservedValue` -/
def perMatch (fs : FeeSchedule) (o : Order) : Nat → Int :=
  if o.isBid then bidPerMatch fs o else askPerMatch fs o

/-- `balanceDelta` of `reservedValue` just before the final sign test, in closed form -/
def closedBalanceDelta (fs : FeeSchedule) (o : Order) (ver : Nat) : Int :=
  let U := toSatoshis o.unitsUnfulfilled
  let m := toSatoshis o.minUnitsMatch
  let fee1 : Int := estimateTraderFee 1 o.maxBatchFeeRate ver
  if U % m ≠ 0 then
    (((U / m : Nat) : Int) - 1) * perMatch fs o m + perMatch fs o (m + U % m) - (((U / m : Nat) : Int) - 1) * fee1 - fee1
  else
    ((U / m : Nat) : Int) * perMatch fs o m - ((U / m : Nat) : Int) * fee1

/-- all `int64` intermediates of `ReservedValue` for an active order with a non-zero minimum match -/
def reservedIntermediates (fs : FeeSchedule) (o : Order) (ver : Nat) : List Int :=
  let U := toSatoshis o.unitsUnfulfilled
  let m := toSatoshis o.minUnitsMatch
  let n0 : Int := ((U / m : Nat) : Int)
  let fee1 : Int := estimateTraderFee 1 o.maxBatchFeeRate ver
  let pm := perMatch fs o
  [(U : Int), (m : Int), n0, n0 * m] ++ perMatchParts fs o m ++ traderFeeParts 1 o.maxBatchFeeRate ver ++
  (if U % m ≠ 0 then
    [n0 - 1, (n0 - 1) * m, ((m + U % m : Nat) : Int)] ++ perMatchParts fs o (m + U % m) ++
    [(n0 - 1) * pm m, (n0 - 1) * pm m + pm (m + U % m), (n0 - 1) * fee1,
     (n0 - 1) * pm m + pm (m + U % m) - (n0 - 1) * fee1]
   else
    [n0 * pm m, n0 * fee1]) ++
  [closedBalanceDelta fs o ver, -closedBalanceDelta fs o ver]

/-- the values the variable `reserved` of `validateOrder` takes, in program order: the new order's reserved value,
    then one running sum per stored order of the account (orders of other accounts are skipped, a panic ends it) -/
def runningSums (fs : FeeSchedule) (acct : Account) (acc : Int) : List Order → List Int
  | [] => []
  | o :: rest =>
    if o.acctKey ≠ acct.key then runningSums fs acct acc rest else
    match orderReservedValue fs o acct.version with
    | .panic => []
    | .ok v => (acc + v) :: runningSums fs acct (acc + v) rest

/-! ## the domain in which Go's fixed-width arithmetic agrees with the model -/

/-- largest number of matches the reserve is computed for -/
def maxMatches (o : Order) : Nat := o.unitsUnfulfilled / o.minUnitsMatch

/-- premium-magnitude guard: the exact premium of the whole unfilled amount (plus the self balances of all
    matches) at the order's own rate is at most 2^48 sat, so that the accumulated float error stays below 1/2 sat -/
def premiumGuard (o : Order) : Bool :=
  decide ((toSatoshis o.unitsUnfulfilled + maxMatches o * o.selfChanBalance) * o.fixedRate * o.leaseDuration
            ≤ 2 ^ 48 * feeRateTotalParts)

/-- Box + premium guards.  Inside it every intermediate of `ReservedValue` is below 2^63 in absolute value, every
    float premium is below 2^50, and `float64(amt)` is exact. -/
def inDomain (fs : FeeSchedule) (o : Order) : Bool :=
  decide (o.unitsUnfulfilled ≤ 10 ^ 7) && decide (o.minUnitsMatch ≤ 10 ^ 7) && decide (o.units ≤ 10 ^ 7) &&
  decide (o.amt ≤ 10 ^ 12) &&
  decide (o.selfChanBalance ≤ 10 ^ 11) && decide (fs.baseFee ≤ 10 ^ 9) && decide (fs.feeRate ≤ 10 ^ 6) &&
  decide (o.maxBatchFeeRate ≤ 10 ^ 8) && decide (o.fixedRate < 2 ^ 32) && decide (o.leaseDuration < 2 ^ 32) &&
  premiumGuard o &&
  decide ((toSatoshis o.unitsUnfulfilled + 2 * toSatoshis o.minUnitsMatch + o.selfChanBalance) * o.fixedRate * o.leaseDuration
            ≤ 2 ^ 48 * feeRateTotalParts)

end Pool.C11
